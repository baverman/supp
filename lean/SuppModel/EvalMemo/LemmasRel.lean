/-
  EvalMemo — two runs of the same evaluation from states that differ only in what is kept for good
  (and in stale provisional slots, counters, epoch numbers) give the same value, move the counter by the
  same amount and write the same provisional slots.
-/
import SuppModel.EvalMemo.LemmasMemo
namespace SuppModel.EvalMemo

structure Sim (s s' : St) (r r' : Val × St) : Prop where
  val : r.1 = r'.1
  delta : r.2.fired + s'.fired = r'.2.fired + s.fired
  prov : r.2.curProv = r'.2.curProv

theorem Sim.symm {s s' : St} {r r' : Val × St} (h : Sim s s' r r') : Sim s' s r' r :=
  ⟨h.val.symm, by have := h.delta; omega, h.prov.symm⟩

theorem Sim.seq {s s' : St} {r₁ r₁' r₂ r₂' : Val × St} (h₁ : Sim s s' r₁ r₁') (h₂ : Sim r₁.2 r₁'.2 r₂ r₂') :
    Sim s s' (r₁.1 ++ r₂.1, r₂.2) (r₁'.1 ++ r₂'.1, r₂'.2) :=
  ⟨by rw [h₁.val, h₂.val], by have := h₁.delta; have := h₂.delta; show r₂.2.fired + _ = r₂'.2.fired + _; omega, h₂.prov⟩

theorem depsM_sim {g : Graph} {ev : Nat → St → Val × St} (ds : List Nat)
    (hinv : ∀ d ∈ ds, ∀ s, Inv g s → Inv g (ev d s).2)
    (hsim : ∀ d ∈ ds, ∀ s s', Inv g s → Inv g s' → s.curProv = s'.curProv → Sim s s' (ev d s) (ev d s'))
    (s s' : St) (hs : Inv g s) (hs' : Inv g s') (hp : s.curProv = s'.curProv) :
    Sim s s' (depsM ev ds s) (depsM ev ds s') := by
  induction ds generalizing s s' with
  | nil => exact ⟨rfl, Nat.add_comm _ _, hp⟩
  | cons d ds ih =>
    have hd := List.mem_cons_self (a := d) (l := ds)
    have h₁ := hsim d hd s s' hs hs' hp
    exact h₁.seq (ih (fun d' hd' => hinv d' (List.mem_cons_of_mem _ hd')) (fun d' hd' => hsim d' (List.mem_cons_of_mem _ hd'))
      _ _ (hinv d hd s hs) (hinv d hd s' hs') h₁.prov)

/-- a node kept for good in one of the states is acyclic: the other run computes the same value quietly -/
theorem sim_fin {g : Graph} {f : Nat} {S : List Nat} {n : Nat} {s s' : St} {v : Val} (hf : free g S < f + 1)
    (hc : Chain g S n) (hs : Inv g s) (hs' : Inv g s') (hp : s.curProv = s'.curProv) (hn : n ∉ S)
    (hfin : s.fin n = some v) : Sim s s' (evalM g (f + 1) S n s) (evalM g (f + 1) S n s') := by
  have e := hs.fin_ok n v hfin
  have a' := (evalM_spec (f + 1) S n s' hf hc hs').acyc (congrArg Prod.snd e)
  rw [show evalM g (f + 1) S n s = (v, s) by simp only [evalM, if_neg hn, hfin]]
  exact ⟨(a'.1.trans (congrArg Prod.fst e)).symm, by rw [a'.2.1]; exact Nat.add_comm _ _, hp.trans a'.2.2.symm⟩

theorem evalM_sim {g : Graph} : ∀ (f : Nat) (S : List Nat) (n : Nat) (s s' : St),
    free g S < f → Chain g S n → Inv g s → Inv g s' → s.curProv = s'.curProv →
    Sim s s' (evalM g f S n s) (evalM g f S n s') := by
  intro f
  induction f with
  | zero => intro S n s s' h; omega
  | succ f ih =>
    intro S n s s' hf hc hs hs' hp
    by_cases hn : n ∈ S
    · simp only [evalM, if_pos hn]
      exact ⟨rfl, by simp only [St.fire]; omega, hp⟩
    cases hfin : s.fin n with
    | some v => exact sim_fin hf hc hs hs' hp hn hfin
    | none =>
      cases hfin' : s'.fin n with
      | some v' => exact (sim_fin hf hc hs' hs hp.symm hn hfin').symm
      | none =>
        have hpn : s'.curProv n = s.curProv n := by rw [hp]
        cases hcp : s.curProv n with
        | some v =>
          simp only [evalM, if_neg hn, hfin, hfin', hpn, hcp]
          exact ⟨rfl, by simp only [St.fire]; omega, hp⟩
        | none =>
          simp only [evalM, if_neg hn, hfin, hfin', hpn, hcp]
          have hfold := depsM_sim (g.deps n)
            (fun d hd s₁ h₁ => (evalM_spec f (n :: S) d s₁ (free_dep_lt hf hn hd) ⟨hd, hc⟩ h₁).inv)
            (fun d hd s₁ s₂ h₁ h₂ h₁₂ => ih (n :: S) d s₁ s₂ (free_dep_lt hf hn hd) ⟨hd, hc⟩ h₁ h₂ h₁₂)
            s s' hs hs' hp
          generalize depsM (evalM g f (n :: S)) (g.deps n) s = r at hfold
          generalize depsM (evalM g f (n :: S)) (g.deps n) s' = r' at hfold
          -- both runs store for good, or both provisionally: the counters moved by the same amount
          have hd : r.2.fired = s.fired ↔ r'.2.fired = s'.fired := by have := hfold.delta; omega
          refine ⟨by rw [hfold.val], by simpa using hfold.delta, ?_⟩
          simp only [curProv_store, hfold.val, hfold.prov, hd]

theorem request_indep {g : Graph} {f : Nat} (hf : g.length < f) {s s' : St} (hs : Inv g s) (hs' : Inv g s')
    (n : Nat) : (requestF g f s n).1 = (requestF g f s' n).1 := by
  have hp : s.bump.curProv = s'.bump.curProv := by
    funext x; rw [curProv_bump hs, curProv_bump hs']
  exact (evalM_sim f [] n s.bump s'.bump (free_nil_lt hf) trivial hs.bump hs'.bump hp).val

theorem answers_eq {g : Graph} : ∀ (h : List Nat) {s : St}, Inv g s →
    answers g h s = h.map fun n => (request g St.empty n).1
  | [], _, _ => rfl
  | n :: h, _, hs => by
    rw [answers, answers_eq h (hs.request n)]
    exact congrArg (· :: _) (request_indep (Nat.lt_succ_self _) hs (Inv.empty g) n)

theorem depsM_congr {ev ev' : Nat → St → Val × St} {ds : List Nat} (h : ∀ d ∈ ds, ∀ s, ev d s = ev' d s) (s : St) :
    depsM ev ds s = depsM ev' ds s := by
  induction ds generalizing s with
  | nil => rfl
  | cons d ds ih => simp only [depsM, h d (by simp), ih fun d' hd' => h d' (List.mem_cons_of_mem _ hd')]

theorem evalM_fuel {g : Graph} : ∀ (f f' : Nat) (S : List Nat) (n : Nat) (s : St),
    free g S < f → free g S < f' → evalM g f S n s = evalM g f' S n s := by
  intro f
  induction f with
  | zero => intro f' S n s h; omega
  | succ f ih =>
    intro f' S n s h h'
    cases f' with
    | zero => omega
    | succ f' =>
      simp only [evalM]
      split
      · rfl
      · next hn => rw [depsM_congr fun d hd s => ih f' (n :: S) d s (free_dep_lt h hn hd) (free_dep_lt h' hn hd)]

end SuppModel.EvalMemo
