/-
  EvalMemo — the cache-free evaluator sees its stack only through the nodes the evaluated node can reach
  (`evalPure_agree`): sufficient fuel is immaterial, and a node that meets no cut on its own has one value under every
  stack that is a path leading to it (`Acyc.eval`).
-/
import SuppModel.EvalMemo.Basic
namespace SuppModel.EvalMemo

theorem deps_nil_of_ge {g : Graph} {n : Nat} (h : g.length ≤ n) : g.deps n = [] := by
  simp [Graph.deps, List.getD, h]

theorem lt_of_mem_deps {g : Graph} {n d : Nat} (h : d ∈ g.deps n) : n < g.length := by
  refine Nat.lt_of_not_le fun h' => ?_
  rw [deps_nil_of_ge h'] at h; cases h

/-- leaving out one element that is counted lowers the count -/
theorem countP_ne_and_lt {α : Type} [DecidableEq α] {p : α → Bool} {l : List α} {a : α} (ha : a ∈ l)
    (hp : p a = true) : l.countP (fun x => x != a && p x) < l.countP p := by
  rw [← List.countP_filter, List.countP_eq_length_filter, List.countP_eq_length_filter (p := p)]
  exact List.length_filter_lt_length_iff_exists.2 ⟨a, List.mem_filter.2 ⟨ha, hp⟩, by simp⟩

theorem free_push {g : Graph} {S : List Nat} {n : Nat} (hn : n ∉ S) (hl : n < g.length) :
    free g (n :: S) < free g S := by
  unfold free
  rw [List.countP_congr (q := fun x => x != n && decide (x ∉ S)) fun x _ => by simp [not_or]]
  exact countP_ne_and_lt (List.mem_range.2 hl) (decide_eq_true hn)

theorem free_nil_le (g : Graph) : free g [] ≤ g.length := by
  unfold free
  exact Nat.le_trans List.countP_le_length (by simp)

theorem free_nil_lt {g : Graph} {f : Nat} (h : g.length < f) : free g [] < f :=
  Nat.lt_of_le_of_lt (free_nil_le g) h

theorem free_dep_lt {g : Graph} {S : List Nat} {n d f : Nat} (h : free g S < f + 1) (hn : n ∉ S)
    (hd : d ∈ g.deps n) : free g (n :: S) < f := by
  have := free_push (g := g) hn (lt_of_mem_deps hd); omega

def evalPures (g : Graph) (f : Nat) (S ds : List Nat) : Val × Bool :=
  (((ds.map (evalPure g f S)).map Prod.fst).flatten, (ds.map (evalPure g f S)).any Prod.snd)

theorem evalPures_congr {g : Graph} {f f' : Nat} {S S' ds : List Nat}
    (h : ∀ d ∈ ds, evalPure g f S d = evalPure g f' S' d) : evalPures g f S ds = evalPures g f' S' ds := by
  rw [evalPures, List.map_congr_left h, evalPures]

theorem evalPure_succ (g : Graph) (f : Nat) (S : List Nat) (n : Nat) :
    evalPure g (f + 1) S n =
      if n ∈ S then ([], true)
      else (n :: (evalPures g f (n :: S) (g.deps n)).1, (evalPures g f (n :: S) (g.deps n)).2) := rfl

theorem evalPure_nocut_inv {g : Graph} {f : Nat} {S : List Nat} {n : Nat}
    (h : (evalPure g (f + 1) S n).2 = false) :
    n ∉ S ∧ ∀ d ∈ g.deps n, (evalPure g f (n :: S) d).2 = false := by
  rw [evalPure_succ] at h
  split at h
  next => cases h
  next hn =>
    simp only [evalPures, List.any_map, List.any_eq_false, Function.comp_apply, Bool.not_eq_true] at h
    exact ⟨hn, h⟩

inductive Reach (g : Graph) : Nat → Nat → Prop
  | refl (n : Nat) : Reach g n n
  | step {n d x : Nat} : d ∈ g.deps n → Reach g d x → Reach g n x

theorem Reach.trans {g : Graph} {a b c : Nat} (h1 : Reach g a b) (h2 : Reach g b c) : Reach g a c := by
  induction h1 with
  | refl => exact h2
  | step hd _ ih => exact Reach.step hd (ih h2)

theorem nocut_noreach {g : Graph} {n x : Nat} (hr : Reach g n x) :
    ∀ (f : Nat) (S : List Nat), free g S < f → (evalPure g f S n).2 = false → x ∉ S := by
  intro f
  induction f generalizing n with
  | zero => intro S hf; omega
  | succ f ih =>
    intro S hf h
    have hi := evalPure_nocut_inv h
    cases hr with
    | refl => exact hi.1
    | step hd hr =>
      exact fun hxS => ih hr _ (free_dep_lt hf hi.1 hd) (hi.2 _ hd) (List.mem_cons_of_mem _ hxS)

theorem evalPure_agree {g : Graph} {f f' : Nat} {S S' : List Nat} {n : Nat} (h : free g S < f)
    (h' : free g S' < f') (hr : ∀ x, Reach g n x → (x ∈ S ↔ x ∈ S')) :
    evalPure g f S n = evalPure g f' S' n := by
  induction f generalizing f' S S' n with
  | zero => omega
  | succ f ih =>
    cases f' with
    | zero => omega
    | succ f' =>
      have hn := hr n (.refl n)
      simp only [evalPure_succ]
      by_cases hS : n ∈ S
      · rw [if_pos hS, if_pos (hn.1 hS)]
      · have hS' := mt hn.2 hS
        rw [if_neg hS, if_neg hS', evalPures_congr fun d hd => ih (free_dep_lt h hS hd) (free_dep_lt h' hS' hd)
          fun x hx => by rw [List.mem_cons, List.mem_cons, hr x (.step hd hx)]]

theorem evalPure_fuel {g : Graph} (f f' : Nat) (S : List Nat) (n : Nat) (h : free g S < f) (h' : free g S < f') :
    evalPure g f S n = evalPure g f' S n :=
  evalPure_agree h h' fun _ _ => Iff.rfl

/-- no cut is met when `n` is evaluated on its own -/
def Acyc (g : Graph) (n : Nat) : Prop := (evalPure g (g.length + 1) [] n).2 = false

instance (g : Graph) (n : Nat) : Decidable (Acyc g n) := by unfold Acyc; infer_instance

/-- the value of `n` evaluated on its own -/
def pv (g : Graph) (n : Nat) : Val := (evalPure g (g.length + 1) [] n).1

theorem evalPure_of_noreach {g : Graph} {f : Nat} {S : List Nat} {n : Nat} (hf : free g S < f)
    (hr : ∀ x, Reach g n x → x ∉ S) : evalPure g f S n = evalPure g (g.length + 1) [] n :=
  evalPure_agree hf (free_nil_lt (Nat.lt_succ_self _)) fun x hx => ⟨fun h => absurd h (hr x hx), nofun⟩

theorem Acyc.dep_eval {g : Graph} {n d : Nat} (h : Acyc g n) (hd : d ∈ g.deps n) :
    evalPure g g.length [n] d = evalPure g (g.length + 1) [] d ∧ ¬ Reach g d n := by
  have hi := evalPure_nocut_inv h
  have hfuel : free g [n] < g.length :=
    free_dep_lt (free_nil_lt (Nat.lt_succ_self _)) hi.1 hd
  have hnr : ∀ x, Reach g d x → x ∉ [n] := fun x hx => nocut_noreach hx _ _ hfuel (hi.2 d hd)
  exact ⟨evalPure_of_noreach hfuel hnr, fun hr => hnr n hr (List.mem_singleton_self n)⟩

theorem Acyc.unfold {g : Graph} {n : Nat} (h : Acyc g n) :
    evalPure g (g.length + 1) [] n =
      (n :: (evalPures g (g.length + 1) [] (g.deps n)).1, (evalPures g (g.length + 1) [] (g.deps n)).2) := by
  rw [evalPure_succ, if_neg (evalPure_nocut_inv h).1, evalPures_congr fun d hd => (h.dep_eval hd).1]

/-- the in-progress stack is a path of the graph that leads to the node evaluated -/
def Chain (g : Graph) : List Nat → Nat → Prop
  | [], _ => True
  | s :: S, m => m ∈ g.deps s ∧ Chain g S s

theorem Chain.reach {g : Graph} {S : List Nat} {m x : Nat} (hc : Chain g S m) (hx : x ∈ S) :
    ∃ d ∈ g.deps x, Reach g d m := by
  induction S generalizing m with
  | nil => cases hx
  | cons s S ih =>
    rcases List.mem_cons.1 hx with rfl | hx
    · exact ⟨m, hc.1, .refl m⟩
    · obtain ⟨d, hd, hr⟩ := ih hc.2 hx
      exact ⟨d, hd, hr.trans (.step hc.1 (.refl m))⟩

/-- a stack entry `x` reachable from `m` would close a cycle through `m` -/
theorem Acyc.noreach {g : Graph} {S : List Nat} {m x : Nat} (h : Acyc g m) (hc : Chain g S m)
    (hr : Reach g m x) : x ∉ S := by
  intro hx
  obtain ⟨d, hd, hdm⟩ := hc.reach hx
  cases hr with
  | refl => exact (h.dep_eval hd).2 hdm
  | step hd' hr' => exact (h.dep_eval hd').2 (hr'.trans (.step hd hdm))

theorem Acyc.eval {g : Graph} {S : List Nat} {m f : Nat} (h : Acyc g m) (hc : Chain g S m)
    (hf : free g S < f) : evalPure g f S m = (pv g m, false) :=
  (evalPure_of_noreach hf fun _ => h.noreach hc).trans (Prod.ext rfl h)

end SuppModel.EvalMemo
