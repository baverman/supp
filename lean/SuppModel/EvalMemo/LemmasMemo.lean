/-
  EvalMemo — the state invariant of the cache discipline and what one evaluation does to it.
-/
import SuppModel.EvalMemo.LemmasPure
namespace SuppModel.EvalMemo

structure Inv (g : Graph) (s : St) : Prop where
  /-- a value kept for good is the value of the node on its own, and that evaluation met no cut -/
  fin_ok : ∀ n v, s.fin n = some v → evalPure g (g.length + 1) [] n = (v, false)
  /-- a provisional value of the current request belongs to a node that does meet a cut -/
  prov_ok : ∀ n v, s.curProv n = some v → ¬ Acyc g n
  /-- provisional values are tagged with past or present epochs -/
  epoch_ok : ∀ n p, s.prov n = some p → p.1 ≤ s.epoch

theorem Inv.empty (g : Graph) : Inv g St.empty := ⟨nofun, nofun, nofun⟩

theorem curProv_bump {g : Graph} {s : St} (h : Inv g s) (n : Nat) : s.bump.curProv n = none := by
  unfold St.curProv St.bump
  cases hp : s.prov n with
  | none => rfl
  | some p =>
    have := h.epoch_ok n p hp
    dsimp only
    rw [if_neg (by omega)]

theorem Inv.bump {g : Graph} {s : St} (h : Inv g s) : Inv g s.bump :=
  ⟨h.fin_ok, fun n v hv => (by rw [curProv_bump h n] at hv; cases hv),
   fun n p hp => Nat.le_succ_of_le (h.epoch_ok n p hp)⟩

theorem Inv.fire {g : Graph} {s : St} (h : Inv g s) : Inv g s.fire := ⟨h.fin_ok, h.prov_ok, h.epoch_ok⟩

@[simp] theorem curProv_fire (s : St) : s.fire.curProv = s.curProv := rfl
@[simp] theorem curProv_setFin (s : St) (n : Nat) (v : Val) : (s.setFin n v).curProv = s.curProv := rfl

theorem upd_elim {α : Type} {P : Nat → α → Prop} {m : Nat → Option α} {k : Nat} {v : α} (hk : P k v)
    (hm : ∀ x w, m x = some w → P x w) : ∀ x w, upd m k v x = some w → P x w := by
  intro x w h
  unfold upd at h
  split at h
  · next hx => cases h; exact hx ▸ hk
  · exact hm x w h

theorem curProv_setProv (s : St) (n : Nat) (v : Val) : (s.setProv n v).curProv = upd s.curProv n v := by
  funext x
  unfold St.curProv St.setProv upd
  by_cases hx : x = n
  · simp [hx]
  · simp only [hx, if_false]

@[simp] theorem fired_store (f0 n : Nat) (v : Val) (s : St) : (store f0 n v s).fired = s.fired := by
  unfold store; split <;> rfl

@[simp] theorem epoch_store (f0 n : Nat) (v : Val) (s : St) : (store f0 n v s).epoch = s.epoch := by
  unfold store; split <;> rfl

theorem curProv_store (f0 n : Nat) (v : Val) (s : St) :
    (store f0 n v s).curProv = if s.fired = f0 then s.curProv else fun x => if x = n then some v else s.curProv x := by
  unfold store
  split
  · rfl
  · exact curProv_setProv s n v

theorem Inv.stored {g : Graph} {s : St} {f0 n : Nat} {v : Val} (h : Inv g s)
    (hfin : s.fired = f0 → evalPure g (g.length + 1) [] n = (v, false))
    (hprov : s.fired ≠ f0 → ¬ Acyc g n) : Inv g (store f0 n v s) := by
  unfold store
  split
  · next hfd => exact ⟨upd_elim (hfin hfd) h.fin_ok, h.prov_ok, h.epoch_ok⟩
  · next hfd =>
    refine ⟨h.fin_ok, ?_, upd_elim (Nat.le_refl _) h.epoch_ok⟩
    rw [curProv_setProv]
    exact upd_elim (hprov hfd) h.prov_ok

/-- What a computation that led from state `s` to the result `r` did, where the cache-free evaluator computes `p` under
    the same stack and `q` on its own (for a node `n`: `q.2 = false` is `Acyc g n` and `q.1` is `pv g n`). -/
structure Spec (g : Graph) (s : St) (r : Val × St) (p q : Val × Bool) : Prop where
  inv : Inv g r.2
  mono : s.fired ≤ r.2.fired
  /-- the counter did not move: this is the cache-free value and no cut was met -/
  quiet : r.2.fired = s.fired → p = (r.1, false)
  /-- nothing below can meet a cut: the value on its own, the counter does not move, no provisional slot is written -/
  acyc : q.2 = false → r.1 = q.1 ∧ r.2.fired = s.fired ∧ r.2.curProv = s.curProv

theorem Spec.seq {g : Graph} {s : St} {r₁ r₂ : Val × St} {p₁ p₂ q₁ q₂ : Val × Bool} (h₁ : Spec g s r₁ p₁ q₁)
    (h₂ : Spec g r₁.2 r₂ p₂ q₂) :
    Spec g s (r₁.1 ++ r₂.1, r₂.2) (p₁.1 ++ p₂.1, p₁.2 || p₂.2) (q₁.1 ++ q₂.1, q₁.2 || q₂.2) := by
  have m₁ := h₁.mono
  have m₂ := h₂.mono
  refine ⟨h₂.inv, Nat.le_trans m₁ m₂, fun (hq : r₂.2.fired = s.fired) => ?_, fun ha => ?_⟩
  · rw [h₁.quiet (by omega), h₂.quiet (by omega)]; rfl
  · have a₁ := h₁.acyc (Bool.or_eq_false_iff.1 ha).1
    have a₂ := h₂.acyc (Bool.or_eq_false_iff.1 ha).2
    exact ⟨by rw [a₁.1, a₂.1], a₂.2.1.trans a₁.2.1, a₂.2.2.trans a₁.2.2⟩

theorem depsM_spec {g : Graph} {f : Nat} {S : List Nat} {ev : Nat → St → Val × St} (ds : List Nat)
    (hev : ∀ d ∈ ds, ∀ s, Inv g s → Spec g s (ev d s) (evalPure g f S d) (evalPure g (g.length + 1) [] d))
    (s : St) (hs : Inv g s) : Spec g s (depsM ev ds s) (evalPures g f S ds) (evalPures g (g.length + 1) [] ds) := by
  induction ds generalizing s with
  | nil => exact ⟨hs, Nat.le_refl _, fun _ => rfl, fun _ => ⟨rfl, rfl, rfl⟩⟩
  | cons d ds ih =>
    have h₁ := hev d List.mem_cons_self s hs
    exact h₁.seq (ih (fun d' hd' => hev d' (List.mem_cons_of_mem _ hd')) _ h₁.inv)

theorem evalM_spec {g : Graph} : ∀ (f : Nat) (S : List Nat) (n : Nat) (s : St),
    free g S < f → Chain g S n → Inv g s →
    Spec g s (evalM g f S n s) (evalPure g f S n) (evalPure g (g.length + 1) [] n) := by
  intro f
  induction f with
  | zero => intro S n s h; omega
  | succ f ih =>
    intro S n s hf hc hs
    rw [evalM]
    by_cases hn : n ∈ S
    · rw [if_pos hn]
      exact ⟨hs.fire, Nat.le_succ _, fun h => absurd h (Nat.succ_ne_self _),
        fun ha => absurd hn (Acyc.noreach ha hc (.refl n))⟩
    rw [if_neg hn]
    cases hfin : s.fin n with
    | some v =>
      have e := hs.fin_ok n v hfin
      refine ⟨hs, Nat.le_refl _, fun _ => ?_, fun _ => ⟨(congrArg Prod.fst e).symm, rfl, rfl⟩⟩
      rw [Acyc.eval (congrArg Prod.snd e) hc hf, pv, e]
    | none =>
      cases hp : s.curProv n with
      | some v =>
        exact ⟨hs.fire, Nat.le_succ _, fun h => absurd h (Nat.succ_ne_self _), fun ha => absurd ha (hs.prov_ok n v hp)⟩
      | none =>
        have hfold := depsM_spec (g.deps n)
          (fun d hd s' hs' => ih (n :: S) d s' (free_dep_lt hf hn hd) ⟨hd, hc⟩ hs') s hs
        generalize depsM (evalM g f (n :: S)) (g.deps n) s = r at hfold
        have hq : r.2.fired = s.fired → evalPure g (f + 1) S n = (n :: r.1, false) := by
          intro h
          rw [evalPure_succ, if_neg hn, hfold.quiet h]
        -- no cut fired, so nothing `n` reaches is in progress and the stack does not matter
        have hq' : r.2.fired = s.fired → evalPure g (g.length + 1) [] n = (n :: r.1, false) := fun h =>
          (evalPure_of_noreach hf fun x hx => nocut_noreach hx _ _ hf (by rw [hq h])).symm.trans (hq h)
        have ha : Acyc g n → n :: r.1 = pv g n ∧ r.2.fired = s.fired ∧ r.2.curProv = s.curProv := by
          intro h
          have e := h.unfold
          have a := hfold.acyc (by rw [Acyc, e] at h; exact h)
          exact ⟨by rw [pv, e, a.1], a.2⟩
        refine ⟨hfold.inv.stored hq' fun hne h => hne (ha h).2.1, ?_, ?_, fun h => ?_⟩ <;>
          simp only [fired_store, curProv_store]
        · exact hfold.mono
        · exact hq
        · have a := ha h
          exact ⟨a.1, a.2.1, by rw [if_pos a.2.1]; exact a.2.2⟩

theorem requestF_spec {g : Graph} {f : Nat} (hf : g.length < f) {s : St} (hs : Inv g s) (n : Nat) :
    Spec g s.bump (requestF g f s n) (evalPure g f [] n) (evalPure g (g.length + 1) [] n) :=
  evalM_spec f [] n s.bump (free_nil_lt hf) trivial hs.bump

theorem Inv.request {g : Graph} {s : St} (hs : Inv g s) (n : Nat) : Inv g (request g s n).2 :=
  (requestF_spec (Nat.lt_succ_self _) hs n).inv

theorem Inv.runHistory {g : Graph} : ∀ (h : List Nat) {s : St}, Inv g s → Inv g (runHistory g h s)
  | [], _, hs => hs
  | n :: h, _, hs => Inv.runHistory h (hs.request n)

end SuppModel.EvalMemo
