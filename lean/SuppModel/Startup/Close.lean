/-
  Startup: close() and a call issued one after the other by a new thread in a quiescent state.
-/
import SuppModel.Startup.Model

namespace SuppModel.Startup

@[simp] theorem getElem?_last {α} (l : List α) (a : α) : (l ++ [a])[l.length]? = some a := by simp
@[simp] theorem set_last {α} (l : List α) (a b : α) : (l ++ [a]).set l.length b = l ++ [b] := by simp

theorem runN_step {v : Variant} {lf : Bool} {t : Tid} {n : Nat} {s s' : St} (h : step v lf s t = some s') :
    runN v lf t (n + 1) s = runN v lf t n s' := by simp [runN, h]

/-- 5 = the lines of close() with a connection; 19 = 5 + the 14 lines of a call that finds no
    connection and launches a server.

    The lines are executed one at a time, each by `simp only` on a state in constructor form.
    Unfolding `runN` first would make `simp` work through `line` under the binders of the nested
    `bind`s, on a state that is a variable, which is far slower to check. -/
theorem close_then_call (s : St) (c : Conn) (hc : s.conn = some c) (hcl : c.closed = false) (hl : s.live = true)
    (hlock : s.lock = none) (hpt : s.pthread = none) :
    runN .current false s.threads.length 5 (s.spawn [.close, .call]) =
      some ⟨none, none, none, false, s.popen, s.closeMsgs + 1,
            s.threads ++ [⟨.cTry, [], .running, none, none, 0⟩]⟩ ∧
    runN .current false s.threads.length 19 (s.spawn [.close, .call]) =
      some ⟨none, none, some ⟨false, 0⟩, true, s.popen + 1, s.closeMsgs + 1,
            s.threads ++ [⟨.done, [], .returned, none, none, 1⟩]⟩ := by
  have h0 : s.spawn [.close, .call] =
      ⟨none, none, some c, true, s.popen, s.closeMsgs, s.threads ++ [⟨.clTry, [.call], .running, none, none, 0⟩]⟩ := by
    cases s
    simp_all [St.spawn, mkThr, Thr.next, Op.entry]
  rw [h0]
  constructor
  · iterate 5
      rw [runN_step (by
        simp only [step, line, goto, finish, Thr.next, Op.entry, St.upd, getElem?_last, set_last, if_true, if_false,
          Option.isSome_some, Bool.false_eq_true, Bool.not_true, reduceCtorEq, serverStep, hcl, Bool.and_self]
        rfl)]
    rfl
  · iterate 19
      rw [runN_step (by
        simp only [step, line, goto, finish, Thr.next, Op.entry, launch, St.upd, getElem?_last, set_last, if_true,
          if_false, Option.isSome_some, Option.isSome_none, Option.isNone_none, Bool.false_eq_true, Bool.not_true,
          reduceCtorEq, serverStep, hcl, Bool.and_self, Nat.lt_add_one, Nat.zero_add, gt_iff_lt]
        rfl)]
    rfl

end SuppModel.Startup
