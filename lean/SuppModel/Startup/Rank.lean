/-
  Startup: every line strictly decreases the rank, so every schedule stops; a line changes the thread
  list only in the record of the thread that runs it and by starting a thread, so threads that have
  finished stay finished.
-/
import SuppModel.Startup.Basic

namespace SuppModel.Startup

variable {v : Variant} {lf : Bool} {s s₁ s' : St} {t n : Nat} {th th' th₁ : Thr}

theorem rank_next (th : Thr) : th.next.rank + th.pc.weight = th.rank := by
  unfold Thr.next Thr.rank
  cases th.ops with
  | nil => exact Nat.zero_add _
  | cons o r => simp only [List.map_cons, List.sum_cons]; omega

/-- A line rewrites the record of the thread that runs it and may append threads; the ranks of what it
    writes sum to less than the rank of the record it replaces. -/
def Decreases (s : St) (t : Tid) (th : Thr) (o : Option St) : Prop :=
  ∀ s', o = some s' → ∃ th' ext, s'.threads = s.threads.set t th' ++ ext ∧
    th'.rank + (ext.map Thr.rank).sum < th.rank

theorem Decreases.none : Decreases s t th none := fun _ => nofun

theorem Decreases.upd (hthr : s₁.threads = s.threads)
    (hops : th'.ops = th.ops) (hw : th'.pc.weight < th.pc.weight) :
    Decreases s t th (some (s₁.upd t th')) := by
  rintro _ ⟨⟩
  refine ⟨th', [], by rw [St.upd, hthr, List.append_nil], ?_⟩
  simp only [Thr.rank, hops, List.map_nil, List.sum_nil]
  omega

theorem Decreases.finish (hthr : s₁.threads = s.threads)
    (hpc : th₁.pc = th.pc) (hops : th₁.ops = th.ops) (hw : 0 < th.pc.weight) :
    Decreases s t th (finish s₁ t th₁) := by
  rintro _ ⟨⟩
  refine ⟨th₁.next, [], by rw [St.upd, hthr, List.append_nil], ?_⟩
  have := rank_next th₁
  simp only [Thr.rank, hpc, hops, List.map_nil, List.sum_nil] at this ⊢
  omega

theorem Decreases.start (hops : th'.ops = th.ops)
    (hw : th'.pc.weight + 3 < th.pc.weight) :
    Decreases s t th (some { s with threads := s.threads.set t th' ++ [starterThr] }) := by
  rintro _ ⟨⟩
  refine ⟨th', _, rfl, ?_⟩
  show th'.rank + 3 < th.rank  -- `starterThr.rank = 3`
  simp only [Thr.rank, hops]
  omega

theorem launch_threads (lf : Bool) (s : St) : (launch lf s).1.threads = s.threads := by
  unfold launch; split <;> rfl

/-- The lines by kind of outcome.  A line of the first group ends, on every path, in `goto`, `raise` or
    a direct update of the record, at a line of smaller weight. -/
theorem line_rank (v : Variant) (lf : Bool) (s : St) (t : Tid) (th : Thr) :
    Decreases s t th (line v lf s t th) := by
  unfold line
  cases hpc : th.pc <;> simp only
  case pIfThread | pRet1 | pIfConn | pRet2 | pMk | rRead | rIf | rIfConn | rExit | tTry | cTry | cConn | cExcept
      | cRun | cSend | cIf | clTry | clConn | clExcept | clSend | clClose =>
    (repeat' split) <;> exact .upd rfl rfl (by simp [hpc, Pc.weight])
  case rRun | tRun => exact .upd (launch_threads ..) rfl (by simp [hpc, Pc.weight])
  case cRet | clPass => exact .finish rfl (by rw [hpc]) rfl (by simp [hpc, Pc.weight])
  case pExit | tClear | clDel =>
    -- an exception in flight (or a missing `conn`) raises, otherwise the operation returns
    split
    · exact .upd rfl rfl (by simp [hpc, Pc.weight])
    · exact .finish rfl (by rw [hpc]) rfl (by simp [hpc, Pc.weight])
  case pWith | rWith =>
    split
    · (repeat' split) <;> exact .upd rfl rfl (by simp [hpc, Pc.weight])
    · exact .none
  case rJoin =>
    -- blocked exactly while the joined thread is running
    split
    · exact .upd rfl rfl (by simp [hpc, Pc.weight])
    split
    · exact .upd rfl rfl (by simp [hpc, Pc.weight])
    split
    · exact .none
    · exact .upd rfl rfl (by simp [hpc, Pc.weight])
  case cRecv =>
    -- blocked exactly on an open connection to a live server with nothing to read
    split
    · exact .upd rfl rfl (by simp [hpc, Pc.weight])
    split
    · exact .upd rfl rfl (by simp [hpc, Pc.weight])
    split
    · exact .upd rfl rfl (by simp [hpc, Pc.weight])
    split
    · exact .none
    · exact .upd rfl rfl (by simp [hpc, Pc.weight])
  case pStart =>
    split
    · exact .upd rfl rfl (by simp [hpc, Pc.weight])
    split
    · exact .start rfl (by simp [hpc, Pc.weight])
    · exact .upd rfl rfl (by simp [hpc, Pc.weight])
  case done => exact .none

theorem sum_map_set {α} (f : α → Nat) {l : List α} {t : Nat} {a : α} (b : α) (h : l[t]? = some a) :
    ((l.set t b).map f).sum + f a = (l.map f).sum + f b := by
  induction l generalizing t with
  | nil => simp at h
  | cons x r ih =>
    cases t with
    | zero => cases h; simp; omega
    | succ n => have := ih (t := n) h; simp only [List.set_cons_succ, List.map_cons, List.sum_cons]; omega

theorem rank_step (hs : step v lf s t = some s') :
    s'.rank < s.rank := by
  obtain ⟨th, hth, _, hl⟩ := step_eq_some.mp hs
  obtain ⟨th', ext, he, hlt⟩ := line_rank v lf s t th s' hl
  have := sum_map_set Thr.rank th' hth
  simp only [St.rank, he, List.map_append, List.sum_append]
  omega

theorem execStrict_bound {sched : List Tid} (h : execStrict v lf sched s = some s') :
    sched.length + s'.rank ≤ s.rank := by
  induction sched generalizing s with
  | nil => cases h; simp
  | cons t rest ih =>
    obtain ⟨s₁, hs, h⟩ := Option.bind_eq_some_iff.mp h
    have := ih h
    have := rank_step hs
    simp only [List.length_cons]
    omega

def othersDone (n : Nat) (s : St) : Prop :=
  n ≤ s.threads.length ∧ ∀ u th, u < n → s.threads[u]? = some th → th.out ≠ .running

theorem othersDone_step (h : othersDone n s)
    (hs : step v lf s t = some s') : othersDone n s' := by
  obtain ⟨th, hth, hrun, hl⟩ := step_eq_some.mp hs
  have hnt : n ≤ t := Nat.le_of_not_lt fun hlt => h.2 t th hlt hth hrun
  have hlen := h.1
  obtain ⟨th', ext, he, _⟩ := line_rank v lf s t th s' hl
  rw [othersDone, he]
  refine ⟨by simp; omega, fun u thu hu hget => ?_⟩
  exact forall_set_append (P := fun u thu => u < n → thu.out ≠ .running)
    (fun i x _ hi hin => h.2 i x hin hi) (by omega) (by omega) u thu hget hu

theorem othersDone_exec (sched : List Tid) (h : othersDone n s) : othersDone n (exec v lf sched s) :=
  exec_induction (fun _ _ _ h hs => othersDone_step h hs) sched s h

theorem othersDone_spawn (h : othersDone n s) (ops : List Op) : othersDone n (s.spawn ops) := by
  refine ⟨by simp [St.spawn]; have := h.1; omega, fun u th hu hget => h.2 u th hu ?_⟩
  rwa [St.spawn, List.getElem?_append_left (by have := h.1; omega)] at hget

end SuppModel.Startup
