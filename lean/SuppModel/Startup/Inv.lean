/-
  Startup: the inductive invariant of the start-up protocol (current source, launches succeed, no
  close() in the workload).  Each thread record carries an assertion `Local` about the shared fields
  that depends on its line only through a few classes of lines; the rely lemmas say which updates of
  the shared fields by ANOTHER thread leave that assertion intact.
-/
import SuppModel.Startup.Basic

namespace SuppModel.Startup

def Pc.isClose : Pc → Bool
  | .clTry | .clConn | .clExcept | .clPass | .clSend | .clClose | .clDel => true
  | _ => false

def Pc.starter : Pc → Bool
  | .tTry | .tRun | .tClear => true
  | _ => false

/-- lines at which `self.prepare_thread` is known to be None -/
def Pc.pthNone : Pc → Bool
  | .pIfConn | .pMk | .rIfConn | .rRun => true
  | _ => false

/-- lines at which `conn` is known to be absent -/
def Pc.connNone : Pc → Bool
  | .pMk | .pStart | .rRun | .tTry | .tRun => true
  | _ => false

/-- lines at which `conn` is known to be present -/
def Pc.connSome : Pc → Bool
  | .rExit | .cSend | .cRecv | .cIf | .cRet => true
  | _ => false

def Pc.usesLoc : Pc → Bool
  | .rIf | .rJoin => true
  | _ => false

/-- lines of `_call` and of the `run()` it calls: a call is in progress -/
def Pc.inCall : Pc → Bool
  | .cTry | .cConn | .cExcept | .cRun | .rWith | .rRead | .rIf | .rJoin | .rIfConn | .rRun | .rExit
  | .cSend | .cRecv | .cIf | .cRet => true
  | _ => false

attribute [simp] Pc.locked Pc.isClose Pc.starter Pc.pthNone Pc.connNone Pc.connSome Pc.usesLoc Pc.inCall

theorem Pc.classes (pc : Pc) :
    (pc.pthNone = true → pc.locked = true) ∧ (pc.usesLoc = true → pc.locked = true) ∧
    (pc = .pStart → pc.locked = true) ∧
    (pc.connNone = true → pc.starter = true ∨ pc.pthNone = true ∨ pc = .pStart) ∧
    (pc.starter = true → pc.locked = false) := by
  cases pc <;> simp

theorem starter_not_locked {pc : Pc} (h : pc.starter = true) : pc.locked = false := pc.classes.2.2.2.2 h
theorem starter_not_done {pc : Pc} (h : pc.starter = true) : pc ≠ .done := by rintro rfl; nomatch h
theorem locked_not_done {pc : Pc} (h : pc.locked = true) : pc ≠ .done := by rintro rfl; nomatch h
theorem connNone_not_done {pc : Pc} (h : pc.connNone = true) : pc ≠ .done := by rintro rfl; nomatch h

/-- what thread `i` (record `th`) knows about the shared fields: the lock owner, `prepare_thread`,
    whether `conn` exists, the number of threads -/
def Local (lock pthread : Option Tid) (conn : Bool) (len : Nat) (i : Tid) (th : Thr) : Prop :=
  ((th.pc = .done ∧ th.out = .returned) ∨ (th.pc ≠ .done ∧ th.out = .running)) ∧
  th.pend = none ∧
  (lock = some i ↔ th.pc.locked = true) ∧
  th.pc.isClose = false ∧ th.ops.all (· != .close) = true ∧
  (th.pc.pthNone = true → pthread = none) ∧
  (th.pc.connNone = true → conn = false) ∧
  (th.pc.connSome = true ∨ 0 < th.answered → conn = true) ∧
  (pthread = some i ↔ th.pc.starter = true) ∧
  (th.pc = .pStart → pthread = some len) ∧
  (th.pc.locked = true → th.pc ≠ .pStart → ∀ x, pthread = some x → x < len) ∧
  (th.pc.usesLoc = true → (pthread = none ∨ pthread = th.loc) ∧ ∀ x, th.loc = some x → x < len) ∧
  (th.pc = .rJoin → th.loc.isSome = true)

section
variable {lock pthread : Option Tid} {conn : Bool} {len : Nat} {i : Tid} {th : Thr}
  (h : Local lock pthread conn len i th)
include h

theorem Local.running_iff : th.out = .running ↔ th.pc ≠ .done := by
  rcases h.1 with ⟨h1, h2⟩ | ⟨h1, h2⟩ <;> simp [h1, h2]

theorem Local.returned (hr : th.out ≠ .running) : th.out = .returned ∧ th.pc = .done :=
  h.1.elim (fun h => ⟨h.2, h.1⟩) fun h => absurd h.2 hr

theorem Local.pend : th.pend = none := h.2.1
theorem Local.mutex : lock = some i ↔ th.pc.locked = true := h.2.2.1
theorem Local.opsNoClose : th.ops.all (· != .close) = true := h.2.2.2.2.1
theorem Local.pthNone (hpc : th.pc.pthNone = true) : pthread = none := h.2.2.2.2.2.1 hpc
theorem Local.connNone (hpc : th.pc.connNone = true) : conn = false := h.2.2.2.2.2.2.1 hpc
theorem Local.connSome (hpc : th.pc.connSome = true ∨ 0 < th.answered) : conn = true := h.2.2.2.2.2.2.2.1 hpc
theorem Local.starter_iff : pthread = some i ↔ th.pc.starter = true := h.2.2.2.2.2.2.2.2.1
theorem Local.usesLoc (hpc : th.pc.usesLoc = true) :
    (pthread = none ∨ pthread = th.loc) ∧ ∀ x, th.loc = some x → x < len := h.2.2.2.2.2.2.2.2.2.2.2.1 hpc
theorem Local.pStart (hpc : th.pc = .pStart) : pthread = some len := h.2.2.2.2.2.2.2.2.2.1 hpc
theorem Local.rJoin (hpc : th.pc = .rJoin) : th.loc.isSome = true := h.2.2.2.2.2.2.2.2.2.2.2.2 hpc

end

def atRecv (th : Thr) : Bool := decide (th.pc = .cRecv)

/-- replies written by the server and not yet read -/
def unread : Option Conn → Nat
  | some c => c.replies
  | none => 0

/-- calls in the workload of thread `i` (starters have none) -/
def total (w : List (List Op)) (i : Tid) : Nat :=
  match w[i]? with
  | some ops => ops.count .call
  | none => 0

/-- bookkeeping of a thread record: workers are the threads `< w.length`, starters the others; the calls
    answered, in progress and still to be made add up to those of the workload -/
def Account (w : List (List Op)) (i : Tid) (th : Thr) : Prop :=
  (w.length ≤ i → (th.pc.starter = true ∨ th.pc = .done) ∧ th.ops = [] ∧ th.answered = 0) ∧
  (i < w.length → th.pc.starter = false) ∧
  (th.pc.usesLoc = true → ∀ x, th.loc = some x → w.length ≤ x) ∧
  (th.pc = .done → th.ops = []) ∧
  th.answered + (if th.pc.inCall then 1 else 0) + th.ops.count .call = total w i

section
variable {w : List (List Op)} {i : Tid} {th : Thr} (h : Account w i th)
include h

theorem Account.of_ge (hi : w.length ≤ i) :
    (th.pc.starter = true ∨ th.pc = .done) ∧ th.ops = [] ∧ th.answered = 0 := h.1 hi
theorem Account.loc_ge (hpc : th.pc.usesLoc = true) {x : Tid} (hx : th.loc = some x) : w.length ≤ x :=
  h.2.2.1 hpc x hx
theorem Account.done_ops (hd : th.pc = .done) : th.ops = [] := h.2.2.2.1 hd
theorem Account.calls : th.answered + (if th.pc.inCall then 1 else 0) + th.ops.count .call = total w i :=
  h.2.2.2.2

end

def Shared (w : List (List Op)) (lock pthread : Option Tid) (conn : Option Conn) (live : Bool)
    (popen len : Nat) : Prop :=
  (popen = if conn.isSome then 1 else 0) ∧
  (∀ c, conn = some c → c.closed = false ∧ live = true) ∧
  (∀ o, lock = some o → o < len) ∧
  (lock = none → ∀ x, pthread = some x → x < len) ∧
  w.length ≤ len ∧ ∀ x, pthread = some x → w.length ≤ x

/-- the threads waiting at `cRecv` are as many as the replies not yet read -/
structure Inv (w : List (List Op)) (s : St) : Prop where
  shared : Shared w s.lock s.pthread s.conn s.live s.popen s.threads.length
  waiting : s.threads.countP atRecv = unread s.conn
  thread : ∀ i th, s.threads[i]? = some th →
    Local s.lock s.pthread s.conn.isSome s.threads.length i th ∧ Account w i th

section
variable {w : List (List Op)} {s : St} (h : Inv w s)
include h

theorem Inv.popen_eq : s.popen = if s.conn.isSome then 1 else 0 := h.shared.1
theorem Inv.conn_open {c : Conn} (hc : s.conn = some c) : c.closed = false ∧ s.live = true := h.shared.2.1 c hc
theorem Inv.lock_lt {o : Tid} (ho : s.lock = some o) : o < s.threads.length := h.shared.2.2.1 o ho
theorem Inv.pthread_lt (hl : s.lock = none) {x : Tid} (hp : s.pthread = some x) : x < s.threads.length :=
  h.shared.2.2.2.1 hl x hp
theorem Inv.workers_le : w.length ≤ s.threads.length := h.shared.2.2.2.2.1

end

theorem countP_set {α} (p : α → Bool) {l : List α} {t : Nat} {a : α} (b : α) (h : l[t]? = some a) :
    (l.set t b).countP p + (if p a then 1 else 0) = l.countP p + (if p b then 1 else 0) := by
  obtain ⟨hlt, rfl⟩ := List.getElem?_eq_some_iff.mp h
  have : (if p l[t] = true then 1 else 0) ≤ l.countP p := by
    split
    · exact List.countP_pos_iff.mpr ⟨_, List.getElem_mem hlt, ‹_›⟩
    · omega
  rw [List.countP_set hlt]
  omega

section
variable {w : List (List Op)} {s : St} {t : Tid} {th th' : Thr} (h : Inv w s) (hth : s.threads[t]? = some th)
include h hth

theorem Inv.set {lock' pthread' : Option Tid} {conn' : Option Conn} {live' : Bool} {popen' cm' : Nat}
    (hshared : Shared w lock' pthread' conn' live' popen' s.threads.length)
    (hwait : unread conn' + (if atRecv th then 1 else 0) = unread s.conn + (if atRecv th' then 1 else 0))
    (hself : Local lock' pthread' conn'.isSome s.threads.length t th' ∧ Account w t th')
    (hothers : ∀ i thi, i ≠ t → i < s.threads.length → Local s.lock s.pthread s.conn.isSome s.threads.length i thi →
      Local lock' pthread' conn'.isSome s.threads.length i thi) :
    Inv w ⟨lock', pthread', conn', live', popen', cm', s.threads.set t th'⟩ := by
  refine ⟨by simpa using hshared, ?_, ?_⟩
  · have := countP_set atRecv th' hth
    simp only [h.waiting] at this ⊢
    omega
  · have := forall_set_append (ext := [])
      (P := fun i x => Local lock' pthread' conn'.isSome s.threads.length i x ∧ Account w i x)
      (fun i x hne hi => ⟨hothers i x hne (getElem?_lt hi) (h.thread i x hi).1, (h.thread i x hi).2⟩) hself (by simp)
    simpa only [List.append_nil, List.length_set] using this

theorem Inv.upd (hwait : atRecv th' = atRecv th)
    (hself : Local s.lock s.pthread s.conn.isSome s.threads.length t th' ∧ Account w t th') :
    Inv w (s.upd t th') :=
  h.set hth h.shared (by rw [hwait]) hself fun _ _ _ _ h => h

/-- `start()` by thread `t`, at `pStart`: a starter thread is appended -/
theorem Inv.start (hwait : atRecv th' = atRecv th)
    (hself : Local s.lock s.pthread s.conn.isSome (s.threads.length + 1) t th' ∧ Account w t th')
    (hnew : Local s.lock s.pthread s.conn.isSome (s.threads.length + 1) s.threads.length starterThr)
    (hothers : ∀ i thi, i ≠ t → Local s.lock s.pthread s.conn.isSome s.threads.length i thi →
      Local s.lock s.pthread s.conn.isSome (s.threads.length + 1) i thi) :
    Inv w { s with threads := s.threads.set t th' ++ [starterThr] } := by
  obtain ⟨h1, h2, h3, h4, h5, h6⟩ := h.shared
  refine ⟨?_, ?_, ?_⟩
  · simp only [List.length_append, List.length_set, List.length_singleton]
    exact ⟨h1, h2, fun o ho => Nat.lt_succ_of_lt (h3 o ho), fun hl x hx => Nat.lt_succ_of_lt (h4 hl x hx),
      Nat.le_succ_of_le h5, h6⟩
  · have := countP_set atRecv th' hth
    simp only [List.countP_append, h.waiting, hwait] at this ⊢
    simpa [atRecv, starterThr] using this
  · simp only [List.length_append, List.length_set, List.length_singleton]
    refine forall_set_append
      (fun i x hne hi => ⟨hothers i x hne (h.thread i x hi).1, (h.thread i x hi).2⟩) hself ?_
    rintro (_ | j) x ⟨⟩
    have : total w s.threads.length = 0 := by simp [total, List.getElem?_eq_none_iff.mpr h5]
    exact ⟨hnew, by simp [Account, starterThr, this, h5]⟩

end

/-! ### rely: updates of the shared fields by thread `t` seen from another thread `i` -/

section
variable {l p : Option Tid} {c : Bool} {n i t : Nat} {thi : Thr}

/-- A thread that does not own the lock is at no locked line, and the other lines ask of the lock and of
    `prepare_thread` only whether they name the thread itself, and nothing of the number of threads. -/
theorem Local.frame {l' p' : Option Tid} {n' : Nat} (h : Local l p c n i thi) (hl : l ≠ some i)
    (hl' : l' ≠ some i) (hp : p = some i ↔ p' = some i) : Local l' p' c n' i thi := by
  have := thi.pc.classes
  simp only [Local] at h ⊢
  grind

variable (hne : i ≠ t)
include hne

theorem Local.acquire (h : Local none p c n i thi) : Local (some t) p c n i thi :=
  h.frame nofun (by simp [hne.symm]) .rfl

theorem Local.release (h : Local (some t) p c n i thi) : Local none p c n i thi :=
  h.frame (by simp [hne.symm]) nofun .rfl

/-- `start()` by the lock owner `t`, who is at `pStart` -/
theorem Local.start (h : Local (some t) (some n) c n i thi) : Local (some t) (some n) c (n + 1) i thi :=
  h.frame (by simp [hne.symm]) (by simp [hne.symm]) .rfl

/-- `self.prepare_thread = None` by the starter `t`: `i` is not the thread it named, nor at `pStart`
    (it would name `n`, not `t < n`); every other clause about `prepare_thread` holds of `none` -/
theorem Local.clearThread (ht : t < n) (h : Local l (some t) c n i thi) : Local l none c n i thi := by
  have := thi.pc.classes
  simp only [Local] at h ⊢
  grind

variable (hi : i < n)
include hi

/-- `self.prepare_thread = Thread(…)` by the lock owner: the new thread will get index `n ≠ i`, and before
    the update no thread was a starter -/
theorem Local.mkThread (h : Local (some t) none c n i thi) : Local (some t) (some n) c n i thi :=
  h.frame (by simp [hne.symm]) (by simp [hne.symm]) (by simp [Nat.ne_of_gt hi])

/-- `_run()` by `t`, who is at a `connNone` line.  No other thread is at one: two locked lines exclude
    each other, so do two starter lines, and a starter line needs `prepare_thread = some i` where the
    locked ones need it `none` (`pMk`, `rRun`) or naming a thread not yet started (`pStart`). -/
theorem Local.connect {tht : Thr} (hlt : t < n) (ht : Local l p false n t tht) (hpc : tht.pc.connNone = true)
    (h : Local l p false n i thi) : Local l p true n i thi := by
  have := thi.pc.classes
  have := tht.pc.classes
  simp only [Local] at h ht ⊢
  grind

end

theorem next_ne_recv (th : Thr) : th.next.pc ≠ .cRecv := by
  unfold Thr.next
  cases th.ops with
  | nil => nofun
  | cons o r => cases o <;> nofun

theorem local_next {lock pthread : Option Tid} {conn : Bool} {len i : Nat} {th : Thr}
    (hout : th.out = .running) (hpend : th.pend = none) (hops : th.ops.all (· != .close) = true)
    (hl : lock ≠ some i) (hp : pthread ≠ some i) (hc : 0 < th.answered → conn = true) :
    Local lock pthread conn len i th.next := by
  unfold Thr.next
  cases hops' : th.ops with
  | nil => simpa [Local, hpend, hl, hp] using hc
  | cons o r =>
    rw [hops'] at hops
    cases o <;> simp_all [Local, Op.entry]

theorem account_next {w : List (List Op)} {i : Tid} {th : Thr}
    (hge : w.length ≤ i → th.ops = [] ∧ th.answered = 0)
    (hacc : th.answered + th.ops.count .call = total w i) : Account w i th.next := by
  unfold Thr.next
  cases hops : th.ops with
  | nil =>
    simp [Account, hops] at hacc ⊢
    exact ⟨fun h => (hge h).2, hacc⟩
  | cons o r =>
    rw [hops] at hacc
    have hlt : i < w.length := by simpa [hops] using hge
    cases o <;> simp [Account, Op.entry] at hacc ⊢ <;> exact ⟨hlt, by omega⟩

theorem inv_init (w : List (List Op)) (hw : noClose w = true) : Inv w (init w) := by
  refine ⟨by simp [Shared, init], ?_, ?_⟩
  · simp [init, unread, List.countP_eq_zero, mkThr, atRecv, next_ne_recv]
  · intro i th hi
    simp only [init, List.getElem?_map, Option.map_eq_some_iff] at hi
    obtain ⟨ops, hops, rfl⟩ := hi
    exact ⟨local_next rfl rfl (List.all_eq_true.mp hw ops (List.mem_of_getElem? hops)) nofun nofun nofun,
      account_next (fun h => absurd (getElem?_lt hops) (Nat.not_lt.mpr h)) (by simp [total, hops])⟩

end SuppModel.Startup
