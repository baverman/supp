/-
  Startup: every line of every thread preserves the invariant, so it holds in every reachable state;
  what it says about such a state.
-/
import SuppModel.Startup.Inv
import SuppModel.Startup.Rank

namespace SuppModel.Startup

/-- the last line of an operation (`cRet` counts the reply) hands over to `Thr.next`; the lock and
    `prepare_thread` may change with it as long as neither names the thread afterwards -/
theorem thread_next {w : List (List Op)} {l l' p p' : Option Tid} {c : Bool} {n i : Nat} {th th' : Thr}
    (hl : Local l p c n i th) (ha : Account w i th) (hrun : th.out = .running) (hl' : l' ≠ some i) (hp' : p' ≠ some i)
    (hk : th' = th ∧ (th.pc = .pExit ∨ th.pc = .tClear) ∨ th' = { th with answered := th.answered + 1 } ∧ th.pc = .cRet) :
    Local l' p' c n i th'.next ∧ Account w i th'.next := by
  obtain ⟨rfl, hpc | hpc⟩ | ⟨rfl, hpc⟩ := hk
  all_goals
    refine ⟨local_next hrun hl.pend hl.opsNoClose hl' hp' ?_, account_next ?_ ?_⟩
    all_goals
      simp only [Local, Account, hpc, Pc.locked, Pc.isClose, Pc.starter, Pc.pthNone, Pc.connNone, Pc.connSome,
        Pc.usesLoc, Pc.inCall] at hl ha ⊢
      grind

/-- The lines are grouped by what they do to the shared fields.  Each group says how the other threads
    keep their assertions (a rely lemma) and what becomes of the shared facts; what it leaves open is that
    the new record of the running thread satisfies its assertion because the old one did.  These
    obligations are discharged together at the end: `simp` evaluates the classes at the two lines,
    `grind` does the propositional rest. -/
theorem inv_line {w : List (List Op)} {s s' : St} {t : Tid} {th : Thr} (h : Inv w s)
    (hth : s.threads[t]? = some th) (hrun : th.out = .running)
    (hs : line .current false s t th = some s') : Inv w s' := by
  obtain ⟨hl, ha⟩ := h.thread t th hth
  obtain ⟨hpop, hopen, howner, hplt, hwl, hge⟩ := h.shared
  have hpend := hl.pend
  have htlt := getElem?_lt hth
  cases hpc : th.pc
  case clTry | clConn | clExcept | clPass | clSend | clClose | clDel | done =>
    -- no close() in the workload, and a thread at `done` is not running
    simp [Local, hpc, hrun] at hl
  case' pRet1 | pRet2 | rRead | tTry | cTry | cExcept | cRun | cIf =>
    simp only [line, hpc, goto, Option.some.injEq] at hs
    subst hs
    refine h.upd hth (by simp [atRecv, hpc]) ?_
  case pIfThread | pIfConn | rIf | rIfConn | cConn =>
    simp only [line, hpc, goto, Option.some.injEq, reduceCtorEq, ↓reduceIte] at hs
    subst hs
    split <;> rename_i hc <;> refine h.upd hth (by simp [atRecv, hpc]) ?_ <;>
      simp only [Local, Account, hpc, Pc.locked, Pc.isClose, Pc.starter, Pc.pthNone, Pc.connNone, Pc.connSome,
        Pc.usesLoc, Pc.inCall, Bool.not_eq_true, Option.isSome_eq_false_iff, Option.isNone_iff_eq_none, reduceCtorEq,
        Bool.false_eq_true, false_imp_iff, true_imp_iff, true_and, and_true, false_and, or_false, false_or, true_or,
        iff_false, iff_true, ne_eq, not_false_eq_true, ↓reduceIte, implies_true] at hl ha hc ⊢ <;>
      grind
  case' pWith | rWith =>
    simp only [line, hpc, Option.isNone_iff_eq_none, goto, St.upd, reduceCtorEq, ↓reduceIte,
      Option.ite_none_right_eq_some, Option.some.injEq] at hs
    obtain ⟨hlk, rfl⟩ := hs
    refine h.set hth ⟨hpop, hopen, fun o ho => Option.some.inj ho ▸ htlt, nofun, hwl, hge⟩ (by simp [atRecv, hpc]) ?_
      fun i thi hne _ hli => (hlk ▸ hli).acquire hne
  case' rExit =>
    have hlk : s.lock = some t := hl.mutex.mpr (by simp [hpc])
    simp only [line, hpc, hpend, goto, St.upd, Option.some.injEq] at hs
    subst hs
    refine h.set hth ⟨hpop, hopen, nofun, fun _ => ?_, hwl, hge⟩ (by simp [atRecv, hpc]) ?_
      fun i thi hne _ hli => (hlk ▸ hli).release hne
  case' pExit =>
    have hlk : s.lock = some t := hl.mutex.mpr (by simp [hpc])
    simp only [line, hpc, hpend, finish, St.upd, Option.some.injEq] at hs
    subst hs
    refine h.set hth ⟨hpop, hopen, nofun, fun _ => ?_, hwl, hge⟩ (by simp [atRecv, hpc, next_ne_recv])
      (thread_next hl ha hrun nofun (fun hp => by simpa [hpc] using hl.starter_iff.mp hp) (.inl ⟨rfl, .inl hpc⟩)) fun i thi hne _ hli => (hlk ▸ hli).release hne
  case' cRet =>
    simp only [line, hpc, finish, Option.some.injEq] at hs
    subst hs
    refine h.upd hth (by simp [atRecv, hpc, next_ne_recv]) (thread_next hl ha hrun (fun hk => by simpa [hpc] using hl.mutex.mp hk)
      (fun hp => by simpa [hpc] using hl.starter_iff.mp hp) (.inr ⟨by rw [hpc], hpc⟩))
  case' tClear =>
    have hp : s.pthread = some t := hl.starter_iff.mpr (by simp [hpc])
    simp only [line, hpc, hpend, finish, St.upd, Option.some.injEq] at hs
    subst hs
    refine h.set hth ⟨hpop, hopen, howner, nofun, hwl, nofun⟩ (by simp [atRecv, hpc, next_ne_recv])
      (thread_next hl ha hrun (fun hk => by simpa [hpc] using hl.mutex.mp hk) nofun (.inl ⟨rfl, .inr hpc⟩)) fun i thi hne _ hli => (hp ▸ hli).clearThread hne htlt
  case' pMk =>
    have hlk : s.lock = some t := hl.mutex.mpr (by simp [hpc])
    have hp : s.pthread = none := hl.pthNone (by simp [hpc])
    simp only [line, hpc, goto, St.upd, Option.some.injEq] at hs
    subst hs
    refine h.set hth ⟨hpop, hopen, howner, by simp [hlk], hwl, fun x hx => Option.some.inj hx ▸ hwl⟩
      (by simp [atRecv, hpc]) ?_ fun i thi hne hi hli => by rw [hlk] at hli ⊢; rw [hp] at hli; exact hli.mkThread hne hi
  case' pStart =>
    have hlk : s.lock = some t := hl.mutex.mpr (by simp [hpc])
    have hp : s.pthread = some s.threads.length := hl.pStart hpc
    simp only [line, hpc, hp, ↓reduceIte, Option.some.injEq] at hs
    subst hs
    rw [← hp]
    refine h.start hth (th' := { th with pc := .pExit }) (by simp [atRecv, hpc]) ?_ ?_
      fun i thi hne hli => by rw [hlk, hp] at hli ⊢; exact hli.start hne
  case' rJoin =>
    obtain ⟨x, hlc⟩ := Option.isSome_iff_exists.mp (hl.rJoin hpc)
    have hx := List.getElem?_eq_getElem ((hl.usesLoc (by simp [hpc])).2 x hlc)
    simp only [line, hpc, reduceCtorEq, ↓reduceIte, hlc, hx, goto, Option.ite_none_left_eq_some,
      Option.some.injEq] at hs
    obtain ⟨hfin, rfl⟩ := hs
    -- the joined thread has returned, so it is not the one `prepare_thread` names
    have hlx := (h.thread x _ hx).1
    have hxd : s.pthread ≠ some x := fun hp => starter_not_done (hlx.starter_iff.mp hp) (hlx.returned hfin).2
    refine h.upd hth (by simp [atRecv, hpc]) ?_
  case' rRun | tRun =>
    have hc : s.conn = none := by simpa using hl.connNone (by simp [hpc])
    simp only [line, hpc, St.upd, launch, Bool.false_eq_true, ↓reduceIte, Option.some.injEq] at hs
    subst hs
    refine h.set hth ⟨by simp [hpop, hc], by simp, howner, hplt, hwl, hge⟩ (by simp [atRecv, hpc, unread, hc]) ?_
      fun i thi hne hi hli => by rw [hc] at hli hl; exact Local.connect hne hi htlt hl (by simp [hpc]) hli
  case' cSend =>
    obtain ⟨c, hc⟩ := Option.isSome_iff_exists.mp (hl.connSome (.inl (by simp [hpc])))
    obtain ⟨hcl, hlive⟩ := hopen c hc
    simp only [line, hpc, hc, hcl, Bool.false_eq_true, ↓reduceIte, hlive, Bool.not_true, goto, St.upd, serverStep,
      Option.some.injEq] at hs
    subst hs
    refine h.set hth ⟨by simpa [hc] using hpop, by simp, howner, hplt, hwl, hge⟩
      (by simp [unread, atRecv, hpc, hc]) ?_ fun _ _ _ _ h => by simpa [hc] using h
  case' cRecv =>
    obtain ⟨c, hc⟩ := Option.isSome_iff_exists.mp (hl.connSome (.inl (by simp [hpc])))
    obtain ⟨hcl, hlive⟩ := hopen c hc
    simp only [line, hpc, hc, hcl, Bool.false_eq_true, ↓reduceIte, gt_iff_lt, goto, St.upd, hlive,
      Option.ite_none_right_eq_some, Option.some.injEq] at hs
    obtain ⟨hrep, rfl⟩ := hs
    refine h.set hth ⟨by simpa [hc] using hpop, by simp, howner, hplt, hwl, hge⟩
      (by simp [unread, atRecv, hpc, hc]; omega) ?_ fun _ _ _ _ h => by simpa [hc] using h
  all_goals
    simp only [Local, Account, starterThr, hpc, Pc.locked, Pc.isClose, Pc.starter, Pc.pthNone, Pc.connNone,
      Pc.connSome, Pc.usesLoc, Pc.inCall, Option.isSome_some, Option.isSome_none, reduceCtorEq, Bool.false_eq_true,
      false_imp_iff, true_imp_iff, true_and, and_true, false_and, or_false, false_or, true_or, iff_false, iff_true,
      ne_eq, not_false_eq_true, ↓reduceIte, implies_true] at hl ha ⊢
    grind

theorem inv_step {w : List (List Op)} {s s' : St} {t : Tid} (h : Inv w s)
    (hs : step .current false s t = some s') : Inv w s' :=
  let ⟨_, hth, hrun, hl⟩ := step_eq_some.mp hs
  inv_line h hth hrun hl

theorem inv_reach (w : List (List Op)) (hw : noClose w = true) (sched : List Tid) :
    Inv w (exec .current false sched (init w)) :=
  exec_induction (fun _ _ _ h hs => inv_step h hs) sched _ (inv_init w hw)

section
variable {w : List (List Op)} {s : St} (h : Inv w s)
include h

theorem inv_popen : s.popen ≤ 1 := by
  have := h.popen_eq
  split at this <;> omega

theorem inv_no_raise (i : Tid) (th : Thr) (e : Exc) (hi : s.threads[i]? = some th) : th.out ≠ .raised e := by
  rcases (h.thread i th hi).1.1 with ⟨_, h2⟩ | ⟨_, h2⟩ <;> simp [h2]

theorem inv_mutex (i j : Tid) (thi thj : Thr) (hi : s.threads[i]? = some thi) (hj : s.threads[j]? = some thj)
    (hli : thi.pc.locked = true) (hlj : thj.pc.locked = true) : s.lock = some i ∧ i = j := by
  have h1 := (h.thread i thi hi).1.mutex.mpr hli
  have h2 := (h.thread j thj hj).1.mutex.mpr hlj
  exact ⟨h1, Option.some.inj (h1 ▸ h2)⟩

theorem inv_lock_owner (o : Tid) (ho : s.lock = some o) : ∃ th, s.threads[o]? = some th ∧ th.pc.locked = true :=
  have hth := List.getElem?_eq_getElem (h.lock_lt ho)
  ⟨_, hth, (h.thread o _ hth).1.mutex.mp ho⟩

theorem inv_conn (c : Conn) (hc : s.conn = some c) : c.closed = false ∧ s.live = true ∧ s.popen = 1 :=
  ⟨(h.conn_open hc).1, (h.conn_open hc).2, by simpa [hc] using h.popen_eq⟩

/-- when every thread has finished nobody holds the lock and the starter handle is cleared: the owner
    of either would be at a line other than `done`, hence running -/
theorem inv_final_quiet (hf : s.final = true) :
    s.lock = none ∧ s.pthread = none ∧ othersDone s.threads.length s := by
  have hdone := final_iff.mp hf
  have hlock : s.lock = none := by
    apply Option.eq_none_iff_forall_ne_some.mpr
    intro o ho
    obtain ⟨th, hth, hlk⟩ := inv_lock_owner h o ho
    exact locked_not_done hlk ((h.thread o th hth).1.returned (hdone o th hth)).2
  refine ⟨hlock, Option.eq_none_iff_forall_ne_some.mpr fun x hp => ?_, Nat.le_refl _, fun u th _ hu => hdone u th hu⟩
  have hth := List.getElem?_eq_getElem (h.pthread_lt hlock hp)
  have hl := (h.thread x _ hth).1
  exact starter_not_done (hl.starter_iff.mp hp) (hl.returned (hdone x _ hth)).2

end

end SuppModel.Startup
