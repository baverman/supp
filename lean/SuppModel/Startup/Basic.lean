/-
  Startup: `step`, `exec`, `final`, `stuck` of the model as lemmas, and the server loop.
-/
import SuppModel.Startup.Model

namespace SuppModel.Startup

theorem getElem?_lt {α} {l : List α} {i : Nat} {x : α} (h : l[i]? = some x) : i < l.length :=
  (List.getElem?_eq_some_iff.mp h).1

theorem forall_set_append {α} {P : Nat → α → Prop} {l ext : List α} {t : Nat} {a : α}
    (hl : ∀ i x, i ≠ t → l[i]? = some x → P i x) (ha : P t a)
    (hext : ∀ j x, ext[j]? = some x → P (l.length + j) x) :
    ∀ i x, (l.set t a ++ ext)[i]? = some x → P i x := by
  intro i x hi
  rw [List.getElem?_append, List.length_set] at hi
  split at hi
  · rw [List.getElem?_set] at hi
    split at hi
    · rename_i hti
      subst hti
      rw [if_pos ‹_›] at hi
      exact Option.some.inj hi ▸ ha
    · exact hl i x (fun e => ‹¬t = i› e.symm) hi
  · have := hext _ x hi
    rwa [Nat.add_sub_cancel' (Nat.le_of_not_lt ‹_›)] at this

theorem step_eq_some {v : Variant} {lf : Bool} {s s' : St} {t : Tid} :
    step v lf s t = some s' ↔
      ∃ th, s.threads[t]? = some th ∧ th.out = .running ∧ line v lf s t th = some s' := by
  unfold step
  cases s.threads[t]? with
  | none => simp
  | some th => by_cases h : th.out = .running <;> simp [h]

theorem exec_induction {v : Variant} {lf : Bool} {P : St → Prop}
    (hstep : ∀ s t s', P s → step v lf s t = some s' → P s') (sched : List Tid) :
    ∀ s, P s → P (exec v lf sched s) := by
  induction sched with
  | nil => exact fun s h => h
  | cons t rest ih =>
    intro s h
    cases hs : step v lf s t with
    | none => simpa [exec, hs] using ih s h
    | some s' => simpa [exec, hs] using ih s' (hstep s t s' h hs)

theorem final_iff {s : St} :
    s.final = true ↔ ∀ (i : Nat) (th : Thr), s.threads[i]? = some th → th.out ≠ .running := by
  simp only [St.final, List.all_eq_true, bne_iff_ne]
  exact ⟨fun h i th hi => h th (List.mem_of_getElem? hi),
    fun h th hm => (List.getElem?_of_mem hm).elim fun i hi => h i th hi⟩

theorem final_false_iff {s : St} :
    s.final = false ↔ ∃ (i : Nat) (th : Thr), s.threads[i]? = some th ∧ th.out = .running := by
  rw [← Bool.not_eq_true, final_iff]
  simp

theorem stuck_false_iff {v : Variant} {lf : Bool} {s : St} :
    s.stuck v lf = false ↔ ∃ t, enabled v lf s t = true := by
  simp only [St.stuck, St.enabledSet, Bool.eq_false_iff, ne_eq, List.isEmpty_iff, List.filter_eq_nil_iff,
    List.mem_range, Classical.not_forall, Classical.not_not]
  refine ⟨fun ⟨t, _, h⟩ => ⟨t, h⟩, fun ⟨t, h⟩ => ⟨t, ?_, h⟩⟩
  obtain ⟨s', hs⟩ := Option.isSome_iff_exists.mp h
  obtain ⟨th, hth, _⟩ := step_eq_some.mp hs
  exact getElem?_lt hth

theorem serverRun_requests_append (pre l : List SrvIn) (hpre : ∀ i ∈ pre, i = .request) :
    serverRun (pre ++ l) =
      ⟨(serverRun l).continues, pre.length + (serverRun l).replies, (serverRun l).closesConn⟩ := by
  induction pre with
  | nil => simp
  | cons a r ih =>
    rw [hpre a (List.mem_cons_self ..)]
    simp only [List.cons_append, serverRun, serverStep, if_true, ih fun i hi => hpre i (List.mem_cons_of_mem _ hi),
      List.length_cons, SrvOut.mk.injEq, true_and, and_true]
    omega

theorem serverRun_requests (pre : List SrvIn) (hpre : ∀ i ∈ pre, i = .request) :
    serverRun pre = ⟨true, pre.length, false⟩ := by
  simpa [serverRun] using serverRun_requests_append pre [] hpre

theorem serverRun_stops (pre : List SrvIn) (x : SrvIn) (post : List SrvIn)
    (hpre : ∀ i ∈ pre, i = .request) (hx : x ≠ .request) :
    (serverRun (pre ++ x :: post)).continues = false ∧ (serverRun (pre ++ x :: post)).replies = pre.length := by
  rw [serverRun_requests_append pre _ hpre]
  cases x <;> simp_all [serverRun, serverStep]

end SuppModel.Startup
