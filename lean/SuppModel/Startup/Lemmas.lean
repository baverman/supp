/- Lemmas for property C16 (start-up protocol), over the model of Startup/Model.lean. -/
import SuppModel.Startup.Close
import SuppModel.Startup.Progress
