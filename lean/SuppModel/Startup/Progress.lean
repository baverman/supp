/-
  Startup: progress (while a thread is still running some thread can execute a line), and what
  holds once no thread can: exactly one server, every call answered.
-/
import SuppModel.Startup.Step

namespace SuppModel.Startup

theorem line_isSome {s : St} {t : Tid} {th : Thr} (hdone : th.pc ≠ .done)
    (hlock : th.pc = .pWith ∨ th.pc = .rWith → s.lock = none)
    (hjoin : th.pc = .rJoin → ∀ x tx, th.loc = some x → s.threads[x]? = some tx → tx.out ≠ .running)
    (hrecv : th.pc = .cRecv → ∀ c, s.conn = some c → 0 < c.replies) :
    (line .current false s t th).isSome = true := by
  cases hpc : th.pc <;> simp only [hpc, reduceCtorEq, or_self, or_true, true_or, forall_const, false_implies,
    ne_eq, not_true_eq_false] at hdone hlock hjoin hrecv <;> simp only [line, hpc, goto, finish, raise, launch, reduceCtorEq, ↓reduceIte]
  case pWith | rWith => simp [hlock]
  case rJoin =>
    split
    · rfl
    · split
      · rfl
      · rename_i _ x hx _ tx htx
        simp [hjoin x tx hx htx]
  case cRecv =>
    split
    · rfl
    · rename_i c hc
      simp only [gt_iff_lt, hrecv c hc, ↓reduceIte]
      split <;> rfl
  all_goals (repeat' split) <;> rfl

theorem locked_ne_with {pc : Pc} : pc.locked = true → pc ≠ .pWith ∧ pc ≠ .rWith := by cases pc <;> decide
theorem starter_ne_with_join {pc : Pc} : pc.starter = true → pc ≠ .pWith ∧ pc ≠ .rWith ∧ pc ≠ .rJoin := by
  cases pc <;> decide

section
variable {w : List (List Op)} {s : St} (h : Inv w s)
include h

theorem Inv.reply_ready {i : Tid} {th : Thr} (hi : s.threads[i]? = some th) (hpc : th.pc = .cRecv) :
    ∀ c, s.conn = some c → 0 < c.replies := by
  intro c hc
  have : 0 < s.threads.countP atRecv :=
    List.countP_pos_iff.mpr ⟨th, List.mem_of_getElem? hi, by simp [atRecv, hpc]⟩
  rwa [h.waiting, hc] at this

theorem Inv.canRun {i : Tid} {th : Thr} (hi : s.threads[i]? = some th) (hrun : th.out = .running)
    (hlock : th.pc = .pWith ∨ th.pc = .rWith → s.lock = none)
    (hjoin : th.pc = .rJoin → ∀ x tx, th.loc = some x → s.threads[x]? = some tx → tx.out ≠ .running) :
    enabled .current false s i = true := by
  have := line_isSome (t := i) ((h.thread i th hi).1.running_iff.mp hrun) hlock hjoin (h.reply_ready hi)
  simpa [enabled, step, hi, hrun] using this

/-- A thread that is not the lock owner waits at most for the lock; the owner waits at most in
    `join()` for a starter thread, and a starter never waits. -/
theorem no_deadlock (hf : s.final = false) : s.stuck .current false = false := by
  rw [stuck_false_iff]
  obtain ⟨i, th, hi, hrun⟩ := final_false_iff.mp hf
  have hli := (h.thread i th hi).1
  cases hlock : s.lock with
  | none =>
    refine ⟨i, h.canRun hi hrun (fun _ => hlock) fun hj => ?_⟩
    have := hli.mutex.mpr (by rw [hj]; rfl)
    simp [hlock] at this
  | some o =>
    obtain ⟨tho, hto, hlk⟩ := inv_lock_owner h o hlock
    obtain ⟨hlo, hao⟩ := h.thread o tho hto
    have horun := hlo.running_iff.mpr (locked_not_done hlk)
    by_cases hw : ∃ x tx, tho.pc = .rJoin ∧ tho.loc = some x ∧ s.threads[x]? = some tx ∧ tx.out = .running
    · obtain ⟨x, tx, hj, hlc, htx, hxr⟩ := hw
      obtain ⟨hlx, hax⟩ := h.thread x tx htx
      have hst : tx.pc.starter = true :=
        (hax.of_ge (hao.loc_ge (by rw [hj]; rfl) hlc)).1.resolve_right (hlx.running_iff.mp hxr)
      obtain ⟨d1, d2, d3⟩ := starter_ne_with_join hst
      exact ⟨x, h.canRun htx hxr (fun hp => (hp.elim d1 d2).elim) fun hp => (d3 hp).elim⟩
    · obtain ⟨c1, c2⟩ := locked_ne_with hlk
      exact ⟨o, h.canRun hto horun (fun hp => (hp.elim c1 c2).elim)
        fun hj x tx hlc htx hxr => hw ⟨x, tx, hj, hlc, htx, hxr⟩⟩

theorem Inv.final_worker (hfin : s.final = true) {i : Tid} {ops : List Op} (hi : w[i]? = some ops) :
    ∃ th, s.threads[i]? = some th ∧ th.out = .returned ∧ th.answered = ops.count .call ∧
      (0 < th.answered → s.conn.isSome = true) := by
  have hth := List.getElem?_eq_getElem (Nat.lt_of_lt_of_le (getElem?_lt hi) h.workers_le)
  obtain ⟨hl, ha⟩ := h.thread i _ hth
  obtain ⟨hret, hd⟩ := hl.returned (final_iff.mp hfin i _ hth)
  refine ⟨_, hth, hret, ?_, fun hp => hl.connSome (.inr hp)⟩
  simpa [hd, ha.done_ops hd, Pc.inCall, total, hi] using ha.calls

theorem exactly_one (hcall : hasCall w = true) (hst : s.stuck .current false = true) :
    s.popen = 1 ∧ ∀ (i : Tid) (ops : List Op), w[i]? = some ops →
      ∃ th, s.threads[i]? = some th ∧ th.out = .returned ∧ th.answered = ops.count .call := by
  have hfin : s.final = true := by
    cases hf : s.final with
    | true => rfl
    | false => simp [no_deadlock h hf] at hst
  refine ⟨?_, fun i ops hi => let ⟨th, a, b, c, _⟩ := h.final_worker hfin hi; ⟨th, a, b, c⟩⟩
  -- some worker has a call; it was answered, so a connection exists, so there was exactly one launch
  simp only [hasCall, List.any_eq_true, beq_iff_eq] at hcall
  obtain ⟨ops, hmem, _, homem, rfl⟩ := hcall
  obtain ⟨i, hi⟩ := List.getElem?_of_mem hmem
  obtain ⟨th, _, _, hans, hconn⟩ := h.final_worker hfin hi
  have := h.popen_eq
  rwa [hconn (hans ▸ List.count_pos_iff.mpr homem), if_pos rfl] at this

end

end SuppModel.Startup
