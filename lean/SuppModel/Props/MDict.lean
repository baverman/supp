/-
  MDict — property theorems about the model of `supp/merged_dict.py` (SuppModel/MDict/Model.lean); proofs of
  the lemmas in SuppModel/MDict/Lemmas.lean.  Property statements ONLY.

  Used by C02 (the binding a read resolves to is the one in the innermost table that has the name, however
  long the chain of tables and however it was nested together), C13 (nothing in a lookup depends on
  positions) and C17 (the iteration order of a merged table is a function of the iteration orders of its
  parts — no set, no hash order enters).  STATUS: full strength, every chain of every length, every nesting;
  the only hypothesis (`Dict.wf`: a dict's keys are distinct) holds of every Python dict.
-/
import SuppModel.MDict.Lemmas
namespace SuppModel.MDict

/-- nesting is flattening: passing a MergedDict as an argument is the same as passing its own arguments -/
theorem MDict_init_nested (inner rest : List Arg) :
    init (Arg.merged (init inner) :: rest) = init (inner ++ rest) := by
  simp [init, Arg.parts, List.flatMap_append]

/-- priority: `m[k]` is the value in the FIRST part (constructor order, after flattening) that has `k`;
    KeyError exactly when no part has it -/
theorem MDict_getitem_first (args : List Arg) (k v : Nat) :
    getitem (init args) k = some v ↔
      ∃ pre p post, init args = pre ++ p :: post ∧ p.get? k = some v ∧ ∀ q ∈ pre, q.get? k = none := by
  rw [getitem_eq_findSome?, List.findSome?_eq_some_iff]

theorem MDict_getitem_none (args : List Arg) (k : Nat) :
    getitem (init args) k = none ↔ ∀ d ∈ init args, k ∉ Dict.keys d := by
  simp only [getitem_eq_findSome?, List.findSome?_eq_none_iff, get?_none_iff]

/-- a chain merged from two chains looks up in the first, then in the second (what `MergedDict(names,
    parent_names)` does at every level of nesting, however deep) -/
theorem MDict_getitem_chain (a b : List Arg) (k : Nat) :
    getitem (init (a ++ b)) k =
      match getitem (init a) k with | some v => some v | none => getitem (init b) k := by
  simp only [init, List.flatMap_append]; exact getitem_append _ _ k

/-- `k in m` exactly when `m[k]` succeeds; `get` is `__getitem__` with a default -/
theorem MDict_contains (args : List Arg) (k : Nat) :
    contains (init args) k = (getitem (init args) k).isSome := (getitem_isSome _ k).symm

theorem MDict_get (args : List Arg) (k dflt : Nat) :
    get (init args) k dflt = match getitem (init args) k with | some v => v | none => dflt := by
  unfold get; cases getitem (init args) k <;> rfl

/-- iteration agrees with lookup: the pairs `items()` yields are exactly the `(k, m[k])` -/
theorem MDict_items_lookup (args : List Arg) (hwf : ∀ d ∈ init args, Dict.wf d) (k : Nat) :
    (iteritems (init args)).get? k = getitem (init args) k := iteritems_get? _ hwf k

/-- every key is yielded once, and the keys are those of the parts -/
theorem MDict_iter_nodup (args : List Arg) : (iter (init args)).Nodup := iter_nodup _

theorem MDict_iter_mem (args : List Arg) (k : Nat) :
    k ∈ iter (init args) ↔ ∃ d ∈ init args, k ∈ Dict.keys d := mem_iter _ k

/-- the iteration order is determined by the parts' own orders alone: first occurrences in the
    concatenation of the parts' key lists, last part first (C17: no set order enters a merged table) -/
theorem MDict_iter_order (args : List Arg) :
    iter (init args) = ((init args).reverse.flatMap Dict.keys).foldl addKey [] := iter_order _

/-- what `items()` returns is itself a well-formed dict, and `values()` are the lookups of the keys `__iter__` yields, in that
    order -/
theorem MDict_items_wf (args : List Arg) : (iteritems (init args)).wf := iter_nodup _

theorem MDict_values (args : List Arg) (hwf : ∀ d ∈ init args, Dict.wf d) :
    itervalues (init args) = (iter (init args)).filterMap (getitem (init args)) := by
  rw [itervalues, values_eq_lookups _ (iter_nodup _)]
  exact filterMap_congr _ fun k _ => iteritems_get? _ hwf k

theorem MDict_addKey (ks : List Nat) (k : Nat) : addKey ks k = if k ∈ ks then ks else ks ++ [k] :=
  addKey_eq ks k

/-! non-vacuity: three tables nested two ways, overlapping keys -/
def exInner : List Arg := [.plain [(1, 10), (2, 20)], .plain [(2, 21), (3, 31)]]
def exArgs : List Arg := [.merged (init exInner), .plain [(3, 32), (4, 42), (1, 12)]]

example : init exArgs = [[(1, 10), (2, 20)], [(2, 21), (3, 31)], [(3, 32), (4, 42), (1, 12)]] ∧
    (∀ d ∈ init exArgs, Dict.wf d) ∧
    getitem (init exArgs) 2 = some 20 ∧ getitem (init exArgs) 3 = some 31 ∧ getitem (init exArgs) 4 = some 42 ∧
    getitem (init exArgs) 5 = none ∧
    iteritems (init exArgs) = [(3, 31), (4, 42), (1, 10), (2, 20)] ∧
    contains (init exArgs) 4 = true ∧ get (init exArgs) 5 7 = 7 := by decide +kernel

end SuppModel.MDict
