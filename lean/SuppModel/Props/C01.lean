/- C01 — names bound at run time are visible.  Statements only; proofs in Den/Visible.lean. -/
import SuppModel.Den.Visible
import SuppModel.Props.C02
namespace SuppModel.Props.C01
open SuppModel.Den

/-- C01 (full grammar of one scope body: jumps — break / continue / return / raise — and raise points anywhere, loops,
    try / except / else / finally, definitions): if some execution evaluates read `r` in a state where `x` is bound — by
    an earlier event of the same scope body, or already on entry with the entry table listing a definition — then
    supp's answer for `x` at `r` contains a definition (supp does not answer "undefined").
    `wf s`: handler chains only inside `tryx`, for-targets are bindings, no binding of a name declared `global`
    and no comprehension (reads inside them are not covered, see the harness evidence).
    Proof: `exec_vis` (induction over executions: every binding that can precede `r` on any path — jumps only go
    forward / outward, `finally` runs on every outcome — is in the part of `s` supp puts before `r`, `GA1`) and
    `pass_or_gen` (a region never loses a name). -/
theorem C01_visible (ks : List Ident) (s : Stmt) (σ σr : State) (r : RId) (x : Ident) (T F : Tbl) (d : Site)
    (hwf : wf s = true) (hown : r ∉ nestedReads s) (hreach : Reach s σ r σr) (hx : σr x = some d)
    (hT : (∃ d', σ x = some d') → HasDef (T.get x)) :
    HasDef ((at_ ks s r T F).get x) := by
  rcases ((exec_vis x hreach).1 hwf).2 r rfl ⟨d, hx⟩ with ⟨d', hg⟩ | ⟨hp, hb⟩
  · exact ⟨d', (at_normal ks s r T F x (some d') hown).2 (.inl hg)⟩
  · obtain ⟨d', hd⟩ := hT hb
    exact ⟨d', (at_normal ks s r T F x (some d') hown).2 (.inr ⟨hp, hd⟩)⟩

/-- the same for the table after a statement, whatever way it is left (normally, by a jump, by an exception) -/
theorem C01_visible_after (ks : List Ident) (s : Stmt) (σ σ' : State) (o : Outcome) (x : Ident) (T : Tbl) (d : Site)
    (hwf : wf s = true) (hexec : Exec s σ o σ') (ho : ∀ r, o ≠ .stop r) (hx : σ' x = some d)
    (hT : (∃ d', σ x = some d') → HasDef (T.get x)) :
    HasDef ((A ks s T).get x) := by
  rcases ((exec_vis x hexec).1 hwf).1 ho ⟨d, hx⟩ with ⟨d', hg⟩ | ⟨hp, hb⟩
  · exact ⟨d', (A_normal ks s T x (some d')).2 (.inl hg)⟩
  · obtain ⟨d', hd⟩ := hT hb
    exact ⟨d', (A_normal ks s T x (some d')).2 (.inr ⟨hp, hd⟩)⟩

/-- non-vacuity: `while …: a = …; break` then a read of `a`; the execution leaves the loop by the jump -/
def exBreak : Stmt := .seq (.while_ .skip (.seq (.bind "a" 1) .brk) .skip) (.read "a" 2)
example : wf exBreak = true := by decide
example : Reach exBreak State.init 2 (State.init.upd "a" 1) :=
  .seqN (.whileBrk .skip (.seqN .bind .brk)) .readStop
example : HasDef ((at_ [] exBreak 2 Tbl.empty Tbl.empty).get "a") :=
  C01_visible [] exBreak State.init _ 2 "a" Tbl.empty Tbl.empty 1 (by decide) (by decide)
    (.seqN (.whileBrk .skip (.seqN .bind .brk)) .readStop) (by simp [State.upd]) (by simp [State.init])

/-- non-vacuity: an exception raised in the middle of a try body, read in the handler -/
def exRaise : Stmt :=
  .tryx false false (.seq (.bind "a" 1) (.seq .raise_ (.bind "a" 2))) (.hcons .skip .skip (.read "a" 3) .hnil) .skip
example : wf exRaise = true := by decide
example : Reach exRaise State.init 3 (State.init.upd "a" 1) :=
  .tryX (.seqN .bind (.seqA .raise_ (by simp))) (.hMatchS .skip .skip .readStop)

/-- on the structured fragment (no jumps) the answer even contains the very definition that is read (from C02) -/
theorem C01_visible_partial (ks : List Ident) (s : Stmt) (σ σr : State) (r : RId) (x : Ident) (T F : Tbl) (d : Site)
    (hfrag : inC02 s = true) (hown : r ∉ nestedReads s) (hlate : lateRead s r x = false) (hreach : Reach s σ r σr)
    (hx : σr x = some d) (hT : ∀ d', σ x = some d' → some d' ∈ T.get x) :
    HasDef ((at_ ks s r T F).get x) :=
  ⟨d, C02.C02_sound ks s σ σr r x T F d hfrag hown hlate hreach hT hx⟩

/-- key sets only grow along a region, whatever jumps and raise points the statement contains (supp ignores them):
    a name that has a definition before `s` has one after `s` -/
theorem C01_keys_grow (ks : List Ident) (s : Stmt) (T : Tbl) (x : Ident) (hwf : wf s = true)
    (h : HasDef (T.get x)) : HasDef ((A ks s T).get x) :=
  keys_grow ks s T x hwf h

/-- outer names: the entry table of a function / lambda body gives a name the function does not bind itself exactly
    the enclosing scope's FINAL table (comprehension variables of the body are not locals) -/
theorem C01_outer (ks : List Ident) (F : Tbl) (params body : Stmt) (x : Ident) (v : Option Site)
    (hp : isBinds params = true) (hx : x ∉ localsOf params ++ localsOf body) :
    v ∈ (funcEntry ks F params body).get x ↔ v ∈ F.get x := by
  simp only [List.mem_append, not_or] at hx
  unfold funcEntry
  rw [A_normal]
  simp [isBinds_pass_not_gen x v params hp hx.1, hx.1, hx.2]

/-- … hence a read inside the body, on a path that does not rebind `x`, sees every definition the enclosing scope's
    final table has for `x` -/
theorem C01_outer_read (ks : List Ident) (F : Tbl) (params body : Stmt) (r : RId) (x : Ident) (d : Site)
    (hp : isBinds params = true) (hx : x ∉ localsOf params ++ localsOf body)
    (hown : r ∉ nestedReads body) (hpath : passAt body r x) (hF : some d ∈ F.get x) :
    let E := funcEntry ks F params body
    some d ∈ (at_ ks body r E (A ks body E)).get x := by
  intro E
  rw [at_normal ks body r E _ x (some d) hown]
  exact .inr ⟨hpath, (C01_outer ks F params body x (some d) hp hx).2 hF⟩

/-- class bodies start from ALL of the enclosing final table -/
theorem C01_class_entry (ks : List Ident) (pre body : Stmt) (c : Ident) (d : Site) (r : RId) (T F : Tbl) (x : Ident)
    (v : Option Site) (hpre : r ∉ (readsOf pre).map (·.1)) :
    v ∈ (at_ ks (.cls pre c d body) r T F).get x ↔ v ∈ (at_ ks body r F F).get x := by
  simp [at_, mem_join, at_none ks pre r T F x hpre]

/-! non-vacuity -/
example : wf (.seq (.while_ .skip (.seq (.bind "a" 1) .brk) .skip) (.read "a" 2)) = true := by decide
example : HasDef ((at_ [] (.seq (.while_ .skip (.seq (.bind "a" 1) .brk) .skip) (.read "a" 2)) 2 Tbl.empty Tbl.empty).get "a") :=
  ⟨1, by decide⟩
/-- module `x = …; def f(): read x` : the body's read of `x` sees the module binding -/
example : some 1 ∈ (answer (.seq (.bind "x" 1) (.def_ .skip "f" 2 .skip (.read "x" 7))) 7 "x") := by decide

end SuppModel.Props.C01
