/-
  C14 — MessagePack codec: lossless, spec-conformant, rejects truncation.
  Property theorems ONLY (helper lemmas live in SuppModel/Msgpack/).
  Every statement is about the executable model `dumps`/`loads` of SuppModel/Msgpack/Model.lean,
  whose format-selection chains and dispatch table are regenerated from supp/umsgpack.py on every run.
-/
import SuppModel.Msgpack.Lemmas

namespace SuppModel.Props.C14
open SuppModel.Msgpack

/-- every first byte is routed to the decoder family the specification assigns to it -/
theorem C14_dispatch : ∀ b, b < 256 → Generated.dispatch b = specFamily b :=
  dispatch_eq

/-- the encoder accepts every value of the data model and emits a legal encoding of it -/
theorem C14_valid (v : Value) (h : wf v = true) :
    ∃ bs, dumps v = .ok bs ∧ Encodes v bs ∧ BytesOK bs :=
  pack_valid v h

/-- the decoder accepts every legal encoding (any format, minimal or not) of a data-model
    value, whatever follows it, and returns that value (tuples as lists) -/
theorem C14_accepts (v : Value) (bs extra : Bytes) (he : Encodes v bs) (h : wf v = true) :
    loads (bs ++ extra) = .ok (normV v) := by
  unfold loads
  rw [(unpack_reads v bs _ he h).1 (by rw [List.length_append]; omega) extra]
  rfl

/-- round trip -/
theorem C14_roundtrip (v : Value) (h : wf v = true) :
    ∃ bs, dumps v = .ok bs ∧ loads bs = .ok (normV v) := by
  obtain ⟨bs, hd, _⟩ := pack_valid v h
  exact ⟨bs, hd, loads_of_dumps h hd⟩

/-- on the MessagePack data model proper (no tuples outside dict keys) the round trip is the identity -/
theorem C14_roundtrip_id (v : Value) (h : wf v = true) (ht : tupFree v = true) :
    ∃ bs, dumps v = .ok bs ∧ loads bs = .ok v := by
  obtain ⟨bs, hd, _⟩ := pack_valid v h
  exact ⟨bs, hd, normV_of_tupFree v ht ▸ loads_of_dumps h hd⟩

/-- every proper prefix of a legal encoding is rejected as insufficient data -/
theorem C14_prefix (v : Value) (bs p : Bytes) (he : Encodes v bs) (h : wf v = true)
    (hp : p <+: bs) (hne : p ≠ bs) : loads p = .error .insufficient := by
  unfold loads
  rw [(unpack_reads v bs _ he h).2 p (Nat.lt_succ_self _) hp hne]
  rfl

/-- integers outside [-2^63, 2^64) are refused, not wrapped -/
theorem C14_range (n : Int) (h : n < -(2 : Int) ^ 63 ∨ (2 : Int) ^ 64 ≤ n) :
    dumps (.int n) = .error .unsupported := by
  rw [dumps, pack]
  rcases packInteger_spec n with ⟨bs, _, he, _⟩ | ⟨hb, _⟩
  · have := int_length he
    simp only [InRange] at this
    omega
  · exact hb

/-- and the decoder never produces one -/
theorem C14_loads_range (bs : Bytes) (v : Value) (hb : BytesOK bs) (h : loads bs = .ok v) :
    intsInRange v = true := by
  have := loads_good bs hb
  rwa [h] at this

/-- smallest-format selection: the encoder's output is no longer than ANY legal encoding of the
    value, except that a float is always written as float64 (9 bytes) where the specification also
    allows float32 (5 bytes): at most 4 bytes of slack per float contained in the value -/
theorem C14_minimal (v : Value) (bs : Bytes) (he : Encodes v bs) (h : wf v = true) :
    ∃ ds, dumps v = .ok ds ∧ ds.length ≤ bs.length + 4 * floatCount v := by
  obtain ⟨ds, hd, _⟩ := pack_valid v h
  exact ⟨ds, hd, pack_minimal v bs ds he hd⟩

/-- in particular, for values without floats the encoder emits a shortest legal encoding -/
theorem C14_minimal_nofloat (v : Value) (bs : Bytes) (he : Encodes v bs) (h : wf v = true)
    (hf : floatCount v = 0) : ∃ ds, dumps v = .ok ds ∧ ds.length ≤ bs.length := by
  simpa [hf] using C14_minimal v bs he h

/-- on a byte string the decoder can only fail with one of its six documented exceptions -/
theorem C14_loads_errors (bs : Bytes) (hb : BytesOK bs) (e : Err) (h : loads bs = .error e) :
    e = .insufficient ∨ e = .invalidString ∨ e = .reserved ∨ e = .unhashable ∨ e = .duplicate ∨
      e = .typeError := by
  have := loads_good bs hb
  rw [h] at this
  exact (decErr_iff e).mp this

/-- i.e. the "logic error" branches (and `struct.error`, `UnsupportedTypeException`) are
    unreachable through the dispatch table -/
theorem C14_loads_no_logic (bs : Bytes) (hb : BytesOK bs) :
    loads bs ≠ .error .logic ∧ loads bs ≠ .error .structError ∧ loads bs ≠ .error .unsupported := by
  have := loads_good bs hb
  refine ⟨fun h => ?_, fun h => ?_, fun h => ?_⟩ <;> rw [h] at this <;> cases this

/-- the encoder succeeds or raises `UnsupportedTypeException`; it never raises `struct.error`
    (every `struct.pack` argument is put in range by the guard of its branch) -/
theorem C14_dumps_errors (v : Value) :
    (∃ bs, dumps v = .ok bs) ∨ dumps v = .error .unsupported := by
  unfold dumps
  cases h : pack v with
  | ok bs => exact .inl ⟨bs, rfl⟩
  | error e => rw [pack_errs v e h]; exact .inr rfl

/-! non-vacuity: a nested value with a tuple key, a float key and an ext satisfies `wf` -/
example : wf (.map [(.tup [.int 1, .str [0x61]], .arr [.nil, .float 0x3ff8000000000000]),
                    (.int (-(2:Int)^63), .ext 5 [1,2,3]),
                    (.bin [], .map [])]) = true := by decide

/-! non-vacuity of the remaining hypotheses -/

-- `C14_roundtrip_id`: a `wf`, tuple-free value with nested containers exists
example : wf (.map [(.int 1, .arr [.nil, .str [0x61], .map [(.bool true, .bin [255])]])]) = true ∧
    tupFree (.map [(.int 1, .arr [.nil, .str [0x61], .map [(.bool true, .bin [255])]])]) = true := by
  decide

-- `C14_accepts`: a non-minimal encoding (uint16 for 1) of a `wf` value inside a fixarray
example : Encodes (.arr [.int 1]) [0x91, 0xcd, 0, 1] ∧ wf (.arr [.int 1]) = true :=
  ⟨Encodes.fixarr [.int 1] [0xcd, 0, 1] (by decide)
      (EncodesList.cons (.int 1) [] [0xcd, 0, 1] []
        (Encodes.uint16 [0, 1] rfl (by decide)) EncodesList.nil),
   by decide⟩

-- `C14_prefix`: that encoding has proper prefixes
example : ([0x91, 0xcd, 0] : Bytes) <+: [0x91, 0xcd, 0, 1] ∧ ([0x91, 0xcd, 0] : Bytes) ≠ [0x91, 0xcd, 0, 1] :=
  ⟨⟨[1], rfl⟩, by decide⟩

-- `C14_loads_range`: a well-formed byte string that `loads` accepts
example : BytesOK [0x91, 0xcd, 0, 1] ∧ loads [0x91, 0xcd, 0, 1] = .ok (.arr [.int 1]) := by
  refine ⟨by decide, ?_⟩
  have he : Encodes (.arr [.int 1]) [0x91, 0xcd, 0, 1] :=
    Encodes.fixarr [.int 1] [0xcd, 0, 1] (by decide)
      (EncodesList.cons (.int 1) [] [0xcd, 0, 1] []
        (Encodes.uint16 [0, 1] rfl (by decide)) EncodesList.nil)
  simpa [normV, normList] using C14_accepts (.arr [.int 1]) [0x91, 0xcd, 0, 1] [] he (by decide)

-- `C14_range`: both sides of the disjunction are inhabited
example : (-(2 : Int) ^ 63 - 1 < -(2 : Int) ^ 63) ∧ ((2 : Int) ^ 64 ≤ (2 : Int) ^ 64) := by decide

-- `C14_minimal`: the float term is needed — float32 is a legal, strictly shorter encoding
example : ∃ v bs, Encodes v bs ∧ wf v = true ∧ floatCount v = 1 ∧
    ∃ ds, dumps v = .ok ds ∧ ds.length = bs.length + 4 :=
  ⟨.float (f32to64 (beVal [0, 0, 0, 0])), 0xca :: [0, 0, 0, 0],
    Encodes.float32 [0, 0, 0, 0] rfl (by decide), by decide, by simp [floatCount],
    _, rfl, by simp [beBytes_length]⟩

-- `C14_loads_errors`: the decoder does fail on some byte strings
example : BytesOK [] ∧ loads [] = .error .insufficient :=
  ⟨by decide, by unfold loads; rw [show ([] : Bytes).length + 1 = 0 + 1 from rfl, unpack_nil]; rfl⟩

-- `C14_dumps_errors`: both outcomes occur
example : dumps .nil = .ok [0xc0] ∧ dumps .opaque = .error .unsupported := by
  simp [dumps, pack]

end SuppModel.Props.C14
