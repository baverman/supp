/-
  C08 (graph-level part) — the name-table evaluator is TOTAL on ranked graphs.
  Property theorems ONLY.  `Graph.ranked g` (SuppModel/Flow/Rank.lean; decidable, evaluated by the
  driver on every real graph) says: ignoring loop back edges the flow graph is acyclic - every
  `.flow` predecessor has a smaller rank, a root flow has a larger rank than the final flow its
  scope's parent chain resolves to (class scopes delegate to their parent, the builtin scope ends
  the chain) - and every flow / scope / loop target referred to exists.  Then every table is
  computed, by the pure evaluator and by the memoised ones, for every set of cut loops and every
  history of queries, with the explicit fuel `Graph.rankFuel g`
      = (Σ #predecessors + #scopes + 6) * ((#loop edges + 1) * (#flows + 1)).
  Acyclicity + closure under reference is all that is needed; no extra clause.
-/
import SuppModel.Flow.Lemmas

namespace SuppModel.Props.C08Flow
open SuppModel.Flow

/-- with an explicit rank (an array indexed by flow id, e.g. supplied by the harness) -/
theorem C08_eval_terminates_rank (g : Graph) (rk : Array Nat) (hv : validRank g rk = true)
    (f : Nat) (fr : FlowRec) (hf : g.flow? f = some fr) (R : List Nat) (n : Nat)
    (hn : g.rankFuel ≤ n) : (flowNames g n R f).isSome :=
  flowNames_total hv (hf ▸ rfl) R hn

/-- TERMINATION of the evaluator: on a ranked graph the table of every existing flow is computed,
    whatever loops are cut, with any fuel ≥ `rankFuel g` -/
theorem C08_eval_terminates (g : Graph) (hr : g.ranked = true) (f : Nat) (fr : FlowRec)
    (hf : g.flow? f = some fr) (R : List Nat) (n : Nat) (hn : g.rankFuel ≤ n) :
    (flowNames g n R f).isSome :=
  C08_eval_terminates_rank g (computeRank g) hr f fr hf R n hn

/-- COMPLETENESS of the check: `Graph.ranked` holds as soon as ANY map flow id ↦ Nat (an array
    indexed by flow id) strictly decreases along every non-loop call and everything referred to
    exists (`validRankU`: no bound on the values) - so a rank argued for on paper or supplied by
    the extractor (e.g. nesting depth of the scope, then creation index) establishes `ranked`, and
    with it all theorems here.  (The computed rank is the least one, at most the number of flows
    with a smaller given rank, hence ≤ #flows.) -/
theorem C08_ranked_complete_unbounded (g : Graph) (rk : Array Nat) (h : validRankU g rk = true) :
    g.ranked = true :=
  ranked_of_validRankU g rk h

/-- in particular from a valid rank in the sense of `validRank` (values ≤ #flows) -/
theorem C08_ranked_complete (g : Graph) (rk : Array Nat) (h : validRank g rk = true) :
    g.ranked = true :=
  ranked_of_validRank g rk h

/-- in the form "some fuel, below the bound, suffices" -/
theorem C08_eval_terminates_ex (g : Graph) (hr : g.ranked = true) (f : Nat) (fr : FlowRec)
    (hf : g.flow? f = some fr) (R : List Nat) :
    ∃ n, n ≤ g.rankFuel ∧ (flowNames g n R f).isSome :=
  ⟨g.rankFuel, Nat.le_refl _, C08_eval_terminates g hr f fr hf R _ (Nat.le_refl _)⟩

/-- every `names_at` query on an existing flow is answered -/
theorem C08_names_at_answers (g : Graph) (hr : g.ranked = true) (f : Nat) (fr : FlowRec)
    (hf : g.flow? f = some fr) (pos : Pos) (n : Nat) (hn : g.rankFuel ≤ n) :
    (namesAt g n [] f pos).isSome :=
  namesAt_total hr (hf ▸ rfl) [] pos hn

/-- and so is every query of every history, by the memoised evaluator of Memo.lean (= scope.py) -/
theorem C08_history_answers (g : Graph) (hr : g.ranked = true) (n : Nat) (hn : g.rankFuel ≤ n)
    (qs : List Query) (hq : ∀ q ∈ qs, (g.flow? q.flow).isSome) (i : Nat) (q : Query)
    (hi : qs[i]? = some q) : ((runQueries g n {} qs)[i]?.bind id).isSome :=
  runQueries_total g n qs {} rfl (fun q' hq' => lookupAt_total hr (hq q' hq') _ _ hn) i q hi

/-- and by the exact memoised evaluator of Checked.lean -/
theorem C08_exact_history_answers (g : Graph) (hr : g.ranked = true) (n : Nat) (hn : g.rankFuel ≤ n)
    (qs : List Query) (hq : ∀ q ∈ qs, (g.flow? q.flow).isSome) (i : Nat) (q : Query)
    (hi : qs[i]? = some q) : ((runQueriesExact g n {} qs)[i]?.bind id).isSome :=
  runQueriesExact_total g n qs {} rfl (fun q' hq' => lookupAt_total hr (hq q' hq') _ _ hn) i q hi

/-! ### non-vacuity -/

private def nm (i : Nat) (s : String) : NameRec := { id := i, name := s, loc := (1, 0), scope := 0 }

/-- nested `for` loops (the graph of Witness/C04.lean) -/
def gNested : Graph :=
  Graph.mk
    [FlowRec.mk 0 0 [nm 100 "x"] [],
     FlowRec.mk 1 0 [nm 101 "i", nm 102 "c"] [Parent.flow 0, Parent.loop 1 5],
     FlowRec.mk 2 0 [nm 103 "j"] [Parent.flow 1, Parent.loop 2 4],
     FlowRec.mk 3 0 [nm 104 "y"] [Parent.flow 2],
     FlowRec.mk 4 0 [] [Parent.flow 3, Parent.flow 2],
     FlowRec.mk 5 0 [nm 105 "d"] [Parent.flow 2],
     FlowRec.mk 6 0 [nm 106 "z"] [Parent.flow 1]]
    [ScopeRec.mk 0 .module none [] 6 []] []

/-- a method in a class in a module: the root flow 30 of the method depends, through the class
    scope, on the module's final flow 10 -/
def gScopes : Graph :=
  Graph.mk
    [FlowRec.mk 10 1 [nm 101 "y"] [],
     FlowRec.mk 20 2 [nm 200 "attr"] [],
     FlowRec.mk 30 3 [nm 300 "y"] [],
     FlowRec.mk 31 3 [] [Parent.flow 30]]
    [ScopeRec.mk 0 .builtin none [] 0 [],
     ScopeRec.mk 1 .module (some 0) ["y"] 10 [],
     ScopeRec.mk 2 .cls (some 1) [] 20 [],
     ScopeRec.mk 3 .func (some 2) ["y"] 31 []] ["len"]

/-- a cycle of `.flow` edges -/
def gCyclic : Graph :=
  Graph.mk [FlowRec.mk 0 0 [] [Parent.flow 1], FlowRec.mk 1 0 [] [Parent.flow 0]]
    [ScopeRec.mk 0 .module none [] 1 []] []

/-- both graphs are ranked (the computed ranks are the longest-path depths), the bounds are small
    numbers, the cyclic graph is rejected - and indeed does not terminate with that fuel -/
example :
    gNested.ranked = true ∧ computeRank gNested = #[0, 1, 2, 3, 4, 3, 2] ∧ gNested.rankFuel = 384 ∧
    gScopes.ranked = true ∧ rankOf (computeRank gScopes) 30 = 1 ∧ rankOf (computeRank gScopes) 31 = 2 ∧
    gScopes.rankFuel = 55 ∧
    gCyclic.ranked = false ∧ flowNames gCyclic gCyclic.rankFuel [] 0 = none := by
  decide +kernel

/-- hypotheses of the theorems met: existing flows, a history inside the loops and outside -/
example :
    (gNested.flow? 4).isSome = true ∧
    (∀ q ∈ [(⟨4, (0, 0), "y"⟩ : Query), ⟨6, (9, 9), "y"⟩, ⟨3, (0, 0), "d"⟩], (gNested.flow? q.flow).isSome) ∧
    runQueries gNested gNested.rankFuel {} [⟨4, (0, 0), "y"⟩, ⟨6, (9, 9), "y"⟩, ⟨3, (0, 0), "d"⟩] =
      [some (some [.undef "y", .nm 104]), some (some [.undef "y", .nm 104]),
       some (some [.undef "d", .nm 105])] := by
  decide +kernel

/-- `C08_ranked_complete_unbounded` / `C08_ranked_complete`: a decreasing rank for `gScopes` that is
    NOT the computed one - scope nesting depth * 100 + creation index: not a `validRank` (values
    exceed #flows = 4) but a `validRankU`; and a bounded one -/
def exDepthRank : Array Nat := Array.ofFn (n := 32) (fun i =>
  if i.val = 10 then 100 else if i.val = 20 then 201 else if i.val = 30 then 302 else
  if i.val = 31 then 303 else 0)
def exSmallRank : Array Nat := Array.ofFn (n := 32) (fun i =>
  if i.val = 10 then 0 else if i.val = 20 then 1 else if i.val = 30 then 2 else
  if i.val = 31 then 4 else 0)

example :
    validRankU gScopes exDepthRank = true ∧ validRank gScopes exDepthRank = false ∧
    validRank gScopes exSmallRank = true ∧ computeRank gScopes ≠ exSmallRank ∧
    validRankU gCyclic (computeRank gCyclic) = false := by
  decide +kernel

end SuppModel.Props.C08Flow
