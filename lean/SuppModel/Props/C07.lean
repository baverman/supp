/-
  C07 — Module resolution agrees with Python's import system.
  Property theorems ONLY (lemmas live in SuppModel/Fs/Lemmas*.lean).  Model: SuppModel/Fs/Model.lean
  (cache-free transliteration of Project.get_module / norm_package / list_packages); specification:
  SuppModel/Fs/Spec.lean (PathFinder/FileFinder, importlib.util.resolve_name, pkgutil.iter_modules,
  written from the import system's documented behaviour).  The suffix tables come from
  SuppModel/Generated/Fs.lean, regenerated from the loaded supp.project on every run.
-/
import SuppModel.Fs.LemmasRel
import SuppModel.Fs.LemmasFind
import SuppModel.Fs.LemmasList
import SuppModel.Witness.C07

namespace SuppModel.Props.C07
open SuppModel.Fs SuppModel.Fs.Generated

/-- `norm_package` = `importlib.util.resolve_name`, error cases included: for a file `top/p1/../pk/base`
    whose package is the `__init__.py` chain `p1. .. .pk` (possibly empty), every relative specifier of
    every level resolves to the same absolute name while the level stays inside the package, and both
    raise ImportError above it (and for a file outside any package).  `noInitUpTo` is the domain
    restriction "no non-package directory between packages" (no namespace directories). -/
theorem C07_relative (fs : Fs) (top : Path) (pkg : List Str) (base rel : Str)
    (hchain : pkgChainOK fs top pkg = true) (hclean : noInitUpTo fs top = true) :
    normPackage fs (top ++ pkg ++ [base]) rel = resolveName rel pkg :=
  normPackage_eq_resolveName fs top pkg base rel hchain hclean

/-- the two error cases spelt out -/
theorem C07_relative_above (fs : Fs) (top : Path) (pkg : List Str) (base rel : Str)
    (hchain : pkgChainOK fs top pkg = true) (hclean : noInitUpTo fs top = true)
    (hdot : rel.head? = some DOT) (habove : pkg.length < leadingDots rel) :
    normPackage fs (top ++ pkg ++ [base]) rel = .error .importError ∧
    resolveName rel pkg = .error .importError := by
  have h := C07_relative fs top pkg base rel hchain hclean
  have h2 : resolveName rel pkg = .error .importError := by
    unfold resolveName
    rw [if_neg (not_not_intro hdot), if_pos habove]
    exact ite_self _
  exact ⟨h.trans h2, h2⟩

/-! non-vacuity: a 2-root, depth-3 tree (/r1/a/b/c/m.py with a, b, c packages; /r2/a/x.py) -/
section Example
def sA : Str := [97]
def sB : Str := [98]
def sC : Str := [99]
def sX : Str := [120]
def sM : Str := [109]
def sR1 : Str := [114, 49]
def sR2 : Str := [114, 50]
def exFs : Fs :=
  { files := [[sR1, sA, INIT_PY], [sR1, sA, sB, INIT_PY], [sR1, sA, sB, sC, INIT_PY], [sR1, sA, sB, sC, sM ++ PY],
              [sR1, sA, sB, sX ++ PY], [sR2, sA, INIT_PY], [sR2, sA, sX ++ PY], [sR2, sM ++ PY]],
    dirs := [[sR2, sA, sC]] }

example : pkgChainOK exFs [sR1] [sA, sB, sC] = true ∧ noInitUpTo exFs [sR1] = true := by decide +kernel
-- level 2 from /r1/a/b/c/m.py: "..x" -> "a.b.x"; level 4 is above the package
example : normPackage exFs ([sR1] ++ [sA, sB, sC] ++ [sM ++ PY]) [DOT, DOT, 120] = .ok [97, DOT, 98, DOT, 120] := by rfl
example : normPackage exFs ([sR1] ++ [sA, sB, sC] ++ [sM ++ PY]) [DOT, DOT, DOT, DOT, 120] = .error .importError := by rfl
-- a stray `/__init__.py` is inside the domain (the walk stops at the filesystem root): top = '/', package `a`
example : pkgChainOK { files := [[INIT_PY], [sA, INIT_PY], [sA, sM ++ PY]], dirs := [] } [] [sA] = true ∧
    noInitUpTo { files := [[INIT_PY], [sA, INIT_PY], [sA, sM ++ PY]], dirs := [] } [] = true := by decide +kernel
example : normPackage { files := [[INIT_PY], [sA, INIT_PY], [sA, sM ++ PY]], dirs := [] } [sA, sM ++ PY] [DOT, 120]
    = .ok [97, DOT, 120] := by rfl
end Example

/-- `NoExtensionNextToSource` (the readable hypothesis) gives what the proof uses: supp's suffix order and
    FileFinder's order select the same module file -/
theorem sameChoice_generated (roots : List Path) (fs : Fs) (comps : List Str)
    (h : NoExtensionNextToSource roots NONEXT_SUFFIXES EXTENSION_SUFFIXES fs comps = true) :
    SameChoice roots SUFFIXES LOADER_SUFFIXES fs comps = true := by
  have := sameChoice_of_noExt roots NONEXT_SUFFIXES EXTENSION_SUFFIXES fs comps h
  rwa [← suffix_orders.1, ← suffix_orders.2] at this

/-- the statement without the two restrictions that exclude the recorded defects: FALSE of the code
    (`C07_split_witness`, `C07_ext_witness`) -/
def C07_find_stmt : Prop :=
  ∀ (roots : List Path) (fs : Fs) (sysModules : List Str) (name : Str),
    validComps (splitOn DOT name) = true →
    NoNamespaceDirs roots fs (splitOn DOT name) = true →
    NoModulePackageClash roots SUFFIXES fs (splitOn DOT name) = true →
    Regular roots SUFFIXES fs (splitOn DOT name) = true →
    (getModule roots SUFFIXES SOURCE_SUFFIXES fs sysModules name).file?
      = (importlibFind LOADER_SUFFIXES fs roots name).bind Loc.file?

/-- `get_module` analyses exactly the file the import system finds — for every search path (sources + sys.path),
    every file system and every dotted name in the property's domain (no namespace directory and no second
    candidate of the same name on the search path of the name, candidates are regular files and packages are
    source packages) outside the recorded split-package class — and, for a name that is not in `sys.modules`,
    raises ImportError iff the import system finds nothing.  `SUFFIXES` (supp's order) and `LOADER_SUFFIXES`
    (FileFinder's order) are the regenerated tables. -/
theorem C07_find (roots : List Path) (fs : Fs) (sysModules : List Str) (name : Str)
    (hv : validComps (splitOn DOT name) = true)
    (hns : NoNamespaceDirs roots fs (splitOn DOT name) = true)
    (hcl : NoModulePackageClash roots SUFFIXES fs (splitOn DOT name) = true)
    (hreg : Regular roots SUFFIXES fs (splitOn DOT name) = true)
    (hext : NoExtensionNextToSource roots NONEXT_SUFFIXES EXTENSION_SUFFIXES fs (splitOn DOT name) = true)
    (hsp : NoSplitPackage roots SUFFIXES SOURCE_SUFFIXES LOADER_SUFFIXES fs (splitOn DOT name) = true) :
    (getModule roots SUFFIXES SOURCE_SUFFIXES fs sysModules name).file?
      = (importlibFind LOADER_SUFFIXES fs roots name).bind Loc.file? ∧
    (sysModules.contains name = false →
      (getModule roots SUFFIXES SOURCE_SUFFIXES fs sysModules name = .importError ↔
       importlibFind LOADER_SUFFIXES fs roots name = none)) := by
  have hsc := sameChoice_generated roots fs _ hext
  have hne := ne_nil_of_validComps hv
  refine ⟨getModuleC_file?_eq_importlib hne sameSuffixes hns hcl hsc hreg hsp _, fun hnot => ?_⟩
  rw [getModule, importlibFind, hnot]
  exact getModuleC_importError_iff_importlib_none hne sameSuffixes hns hcl hsc hreg hsp

/-- the same for ANY two suffix tables with the same members whose orders select the same module file -/
theorem C07_find_any_suffix_order (roots : List Path) (sfx src lsfx : List Str) (fs : Fs) (comps : List Str)
    (hs : SameSuffixes sfx lsfx = true)
    (hv : validComps comps = true)
    (hns : NoNamespaceDirs roots fs comps = true)
    (hcl : NoModulePackageClash roots sfx fs comps = true)
    (hsc : SameChoice roots sfx lsfx fs comps = true)
    (hreg : Regular roots sfx fs comps = true)
    (hsp : NoSplitPackage roots sfx src lsfx fs comps = true) (inSys : Bool) :
    (getModuleC roots sfx src fs inSys comps).file? = (importlibFindC lsfx fs roots comps).bind Loc.file? :=
  getModuleC_file?_eq_importlib (ne_nil_of_validComps hv) hs hns hcl hsc hreg hsp inSys

/-- LOWER BOUND: whatever `pkgutil.iter_modules` enumerates in the directory of `root` under ANY path entry `r`
    (in particular in the directory of the package importlib finds for `root`; for root = "" every path entry)
    is proposed by `list_packages`.  `sourcePkgsAt`: sub-packages are source packages. -/
theorem C07_list_sup (roots : List Path) (fs : Fs) (sysModules : List Str) (root : Str) (r : Path) (n : Str)
    (hr : r ∈ roots)
    (hp : sourcePkgsAt LOADER_SUFFIXES fs (pkgDirOf r root) = true)
    (he : enumerable LOADER_SUFFIXES fs (pkgDirOf r root) n = true) :
    n ∈ listPackages roots SUFFIXES fs sysModules root :=
  list_sup hr sameSuffixes suffixOrdered_SUFFIXES hp he

/-- UPPER BOUND: a proposal either comes from `sys.modules` (already loaded) or is backed by a candidate file,
    and then `get_module` finds a file for the dotted name `root.n` (the components of `root`, empty ones
    dropped as `os.path.join` drops them, followed by `n`) -/
theorem C07_list_sub (roots : List Path) (fs : Fs) (sysModules : List Str) (root n : Str)
    (h : n ∈ listPackages roots SUFFIXES fs sysModules root) :
    n ∈ sysChildren sysModules root ∨
    ∃ f b, getModuleC roots SUFFIXES SOURCE_SUFFIXES fs false
        ((splitOn DOT root).filter (· ≠ []) ++ [n]) = .found f b :=
  Decidable.or_iff_not_imp_left.mpr fun hn => list_sub_importable h hn false

/-- UPPER BOUND against the import system: in the domain of `C07_find` (for the dotted name `root.n`) a proposal
    that does not come from `sys.modules` is importable -/
theorem C07_list (roots : List Path) (fs : Fs) (sysModules : List Str) (root n : Str)
    (h : n ∈ listPackages roots SUFFIXES fs sysModules root)
    (hn : n ∉ sysChildren sysModules root)
    (hv : validComps ((splitOn DOT root).filter (· ≠ []) ++ [n]) = true)
    (hns : NoNamespaceDirs roots fs ((splitOn DOT root).filter (· ≠ []) ++ [n]) = true)
    (hcl : NoModulePackageClash roots SUFFIXES fs ((splitOn DOT root).filter (· ≠ []) ++ [n]) = true)
    (hreg : Regular roots SUFFIXES fs ((splitOn DOT root).filter (· ≠ []) ++ [n]) = true)
    (hext : NoExtensionNextToSource roots NONEXT_SUFFIXES EXTENSION_SUFFIXES fs
        ((splitOn DOT root).filter (· ≠ []) ++ [n]) = true)
    (hsp : NoSplitPackage roots SUFFIXES SOURCE_SUFFIXES LOADER_SUFFIXES fs
        ((splitOn DOT root).filter (· ≠ []) ++ [n]) = true) :
    ∃ f d, importlibFindC LOADER_SUFFIXES fs roots ((splitOn DOT root).filter (· ≠ []) ++ [n]) = some (.file f d) := by
  obtain ⟨f, b, hf⟩ := list_sub_importable h hn false
  exact ⟨f, importlibFindC_of_found (ne_nil_of_validComps hv) sameSuffixes hns hcl
    (sameChoice_generated roots fs _ hext) hreg hsp hf⟩

/-! non-vacuity of the hypotheses of `C07_find` / `C07_list` on the 2-root depth-3 tree `exFs`:
    "a.b.c.m" with path [/r1, /r2] is found at depth 3 in the first root -/
section Example2
def nm_abcm : Str := [97, DOT, 98, DOT, 99, DOT, 109]
example : validComps (splitOn DOT nm_abcm) = true ∧
    NoNamespaceDirs [[sR1], [sR2]] exFs (splitOn DOT nm_abcm) = true ∧
    NoModulePackageClash [[sR1], [sR2]] SUFFIXES exFs (splitOn DOT nm_abcm) = true ∧
    Regular [[sR1], [sR2]] SUFFIXES exFs (splitOn DOT nm_abcm) = true ∧
    NoExtensionNextToSource [[sR1], [sR2]] NONEXT_SUFFIXES EXTENSION_SUFFIXES exFs (splitOn DOT nm_abcm) = true ∧
    NoSplitPackage [[sR1], [sR2]] SUFFIXES SOURCE_SUFFIXES LOADER_SUFFIXES exFs (splitOn DOT nm_abcm) = true ∧
    getModule [[sR1], [sR2]] SUFFIXES SOURCE_SUFFIXES exFs [] nm_abcm = .found [sR1, sA, sB, sC, sM ++ PY] true := by
  decide +kernel
-- "a.x" with path [/r2, /r1]: found in r2 although r1/a/b/x.py exists elsewhere; all hypotheses hold
example : NoNamespaceDirs [[sR2], [sR1]] exFs [sA, sX] = true ∧
    NoModulePackageClash [[sR2], [sR1]] SUFFIXES exFs [sA, sX] = true ∧
    Regular [[sR2], [sR1]] SUFFIXES exFs [sA, sX] = true ∧
    NoExtensionNextToSource [[sR2], [sR1]] NONEXT_SUFFIXES EXTENSION_SUFFIXES exFs [sA, sX] = true ∧
    NoSplitPackage [[sR2], [sR1]] SUFFIXES SOURCE_SUFFIXES LOADER_SUFFIXES exFs [sA, sX] = true ∧
    getModuleC [[sR2], [sR1]] SUFFIXES SOURCE_SUFFIXES exFs false [sA, sX] = .found [sR2, sA, sX ++ PY] true := by
  decide +kernel
-- list_packages "a.b" with path [/r1, /r2]: c (package) and x (module) are enumerable and proposed
example : sourcePkgsAt LOADER_SUFFIXES exFs (pkgDirOf [sR1] [97, DOT, 98]) = true ∧
    enumerable LOADER_SUFFIXES exFs (pkgDirOf [sR1] [97, DOT, 98]) sC = true ∧
    enumerable LOADER_SUFFIXES exFs (pkgDirOf [sR1] [97, DOT, 98]) sX = true ∧
    sC ∈ listPackages [[sR1], [sR2]] SUFFIXES exFs [] [97, DOT, 98] := by
  decide +kernel
end Example2

/-- negation witness of the unrestricted statement (see SuppModel/Witness/C07.lean): all other domain
    hypotheses hold, `NoSplitPackage` fails, the model finds r2/pk/m2.py, the import system nothing -/
theorem C07_split_witness :
    NoSplitPackage [[Witness.r1], [Witness.r2]] SUFFIXES SOURCE_SUFFIXES LOADER_SUFFIXES Witness.splitFs
        (splitOn DOT Witness.pk_m2) = false ∧
    (getModule [[Witness.r1], [Witness.r2]] SUFFIXES SOURCE_SUFFIXES Witness.splitFs [] Witness.pk_m2).file?
      ≠ (importlibFind LOADER_SUFFIXES Witness.splitFs [[Witness.r1], [Witness.r2]] Witness.pk_m2).bind Loc.file? := by
  obtain ⟨_, _, _, _, _, hsp, hget, himp⟩ := Witness.C07_split
  refine ⟨hsp, ?_⟩
  rw [hget, himp]
  decide +kernel

/-- second negation witness (extension module next to its source): all other hypotheses hold,
    `NoExtensionNextToSource` fails, the model selects r1/m.py, the import system r1/m.abi3.so -/
theorem C07_ext_witness :
    NoExtensionNextToSource [[Witness.r1]] NONEXT_SUFFIXES EXTENSION_SUFFIXES Witness.extFs
        (splitOn DOT Witness.mName) = false ∧
    (getModule [[Witness.r1]] SUFFIXES SOURCE_SUFFIXES Witness.extFs [] Witness.mName).file?
      ≠ (importlibFind LOADER_SUFFIXES Witness.extFs [[Witness.r1]] Witness.mName).bind Loc.file? := by
  obtain ⟨_, _, _, _, _, hext, hget, himp⟩ := Witness.C07_ext_next_to_source
  refine ⟨hext, ?_⟩
  rw [hget, himp]
  decide +kernel

/-- hence the unrestricted statement is false of the code as it is -/
theorem C07_find_stmt_false : ¬ C07_find_stmt := by
  intro h
  obtain ⟨hv, hns, hcl, hreg, _⟩ := Witness.C07_split
  exact C07_split_witness.2 (h [[Witness.r1], [Witness.r2]] Witness.splitFs [] Witness.pk_m2 hv hns hcl hreg)

end SuppModel.Props.C07
