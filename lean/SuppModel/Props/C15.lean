/-
  C15 — Remote calls are transparent and failures are isolated.
  Property theorems ONLY (helper lemmas: SuppModel/Rpc/Lemmas.lean; bytes: the C14 theorems and
  `loads_of_dumps`, `dumps_tup_error` of SuppModel/Msgpack/Lemmas.lean).

  Every statement is about the executable model of supp/remote.py `_call` (`clientCall`, `session`)
  and supp/server.py `Server.run` / `Server.process` (`serverStep`, `serverRun`) in
  SuppModel/Rpc/Model.lean, for ANY in-process API `api` (any state type, any function that may
  raise and may change the state) and any request sequence, with `dumps`/`loads` the C14 model of
  supp/umsgpack.py.  The `C15_server_*` theorems are about `serverApply` (SuppModel/Rpc/Server.lean),
  the five methods of `Server`, for ANY library `lib`.

  Hypotheses (decidable, evaluated by the driver on every input):
    `reqOK r`  the request `(name, args, kwargs)` is in the MessagePack data model and `name != 'close'`
    `resOK x`  the in-process result is a Python object: in the data model, or refused by `dumps`
-/
import SuppModel.Rpc.Lemmas

namespace SuppModel.Props.C15
open SuppModel.Msgpack SuppModel.Rpc

/-- what the client observes for a request sequence is, reply by reply, the in-process result of
    the same sequence: value (tuples as lists) / `Exception(message)` / `Exception('Serialize error')` -/
theorem C15_transparent {σ} (api : Api σ) (st : σ) (rs : List Req)
    (hreq : ∀ r ∈ rs, reqOK r = true)
    (hres : ∀ x ∈ (inproc api st rs).1, resOK x = true) :
    (session api st rs).1 = (inproc api st rs).1.map expected := by
  rw [session_eq_inproc api st rs hreq hres]

/-- a request at any index — in particular one that raises, names an unknown method, has wrong
    arguments or an unserialisable result — leaves the server in its loop with the state the
    in-process run has; it is reported as an exception; the replies to every later request are the
    in-process ones -/
theorem C15_isolated {σ} (api : Api σ) (st : σ) (pre : List Req) (bad : Req) (suf : List Req)
    (hreq : ∀ r ∈ pre ++ bad :: suf, reqOK r = true)
    (hres : ∀ x ∈ (inproc api st (pre ++ bad :: suf)).1, resOK x = true) :
    -- the step of `bad` itself, from the state after `pre`
    (clientCall api (inproc api st pre).2 bad).1 = (inprocStep api (inproc api st pre).2 bad).1 ∧
    (clientCall api (inproc api st pre).2 bad).2.1 = none ∧
    (failing (inprocStep api (inproc api st pre).2 bad).2 = true →
      ∃ m, (clientCall api (inproc api st pre).2 bad).2.2 = .exception m) ∧
    -- the whole session: server alive at the end, state = in-process state
    (session api st (pre ++ bad :: suf)).2 = ((inproc api st (pre ++ bad :: suf)).2, none) ∧
    -- replies to the suffix = in-process results of the suffix from the in-process state
    (session api st (pre ++ bad :: suf)).1.drop (pre.length + 1) =
      (inproc api (inprocStep api (inproc api st pre).2 bad).1 suf).1.map expected := by
  obtain ⟨h1, h2, h3⟩ := session_isolated api st pre bad suf hreq hres
  refine ⟨by rw [h2], by rw [h2], ?_, h1, h3⟩
  intro hf
  obtain ⟨m, hm⟩ := expected_failing _ hf
  exact ⟨m, by rw [h2, hm]⟩

/-- `Server.run` on the byte stream of the requests: exactly one reply per request, in order
    (the i-th reply decodes to the i-th in-process result), and the loop is still running -/
theorem C15_paired {σ} (api : Api σ) (st : σ) (rs : List Req) (bss : List Bytes)
    (henc : Encoded rs bss)
    (hreq : ∀ r ∈ rs, reqOK r = true)
    (hres : ∀ x ∈ (inproc api st rs).1, resOK x = true) :
    (serverRun api st (bss.map some)).1.length = rs.length ∧
    (∀ i : Nat, ((serverRun api st (bss.map some)).1[i]?).map clientDecode =
          ((inproc api st rs).1[i]?).map expected) ∧
    (serverRun api st (bss.map some)).2 = ((inproc api st rs).2, none) := by
  obtain ⟨reps, hrun, hdec⟩ := serverRun_eq_inproc api st rs bss henc hreq hres
  rw [hrun]
  refine ⟨?_, ?_, rfl⟩
  · have := congrArg List.length hdec
    simpa [inproc_length] using this
  · intro i
    have := congrArg (fun l => l[i]?) hdec
    simpa using this

/-- such a byte stream exists for every data-model request sequence -/
theorem C15_paired_encodable (rs : List Req) (hreq : ∀ r ∈ rs, reqOK r = true) :
    ∃ bss, Encoded rs bss ∧ bss.length = rs.length :=
  encoded_exists rs hreq

/-- `close` (whatever its arguments) produces no reply and ends the loop, nothing after it is
    read; so do EOF and undecodable bytes; the state is untouched -/
theorem C15_close {σ} (api : Api σ) (st : σ) (rest : List (Option Bytes)) :
    (∀ args kwargs, wf (Req.wire ⟨.str closeName, args, kwargs⟩) = true →
      ∃ bs, dumps (Req.wire ⟨.str closeName, args, kwargs⟩) = .ok bs ∧
        serverRun api st (some bs :: rest) = ([], st, some .closed)) ∧
    serverRun api st (none :: rest) = ([], st, some .eof) ∧
    (∀ bs e, loads bs = .error e → serverRun api st (some bs :: rest) = ([], st, some (.ioError e))) := by
  refine ⟨?_, ?_, ?_⟩
  · intro args kwargs hw
    obtain ⟨bs, hd, _⟩ := Props.C14.C14_roundtrip _ hw
    exact ⟨bs, hd, serverRun_exit api st _ rest st _ (serverStep_close api st args kwargs bs hw hd)⟩
  · exact serverRun_exit api st none rest st _ rfl
  · intro bs e he
    exact serverRun_exit api st (some bs) rest st _ (by simp [serverStep, he])

/-! ### the methods of `Server`: the server-side normalisations (`nstr`, `tuple(position)`)
    restore the client's arguments, `lint` is trimmed to four fields, `configure` replaces the
    project, a missing project is an AttributeError inside `process` -/

theorem C15_server_assist {ω} (lib : Lib ω) (w : ω) (s p f : Value) (h : docArgs s p f = true) :
    serverApply lib (w, true) (.str sAssist) (normV (.tup [s, p, f])) (normV (.map [])) =
      (((lib.assist w s p f).1, true), (lib.assist w s p f).2) := by
  obtain ⟨u, xs, rfl, rfl, hn⟩ := normV_doc s p f h
  rw [hn]
  simp [serverApply, bindArgs_exact, normV, normPairs, sAssist, sConfigure, nstr, asTuple]

theorem C15_server_location {ω} (lib : Lib ω) (w : ω) (s p f : Value) (h : docArgs s p f = true) :
    serverApply lib (w, true) (.str sLocation) (normV (.tup [s, p, f])) (normV (.map [])) =
      (((lib.location w s p f).1, true), (lib.location w s p f).2) := by
  obtain ⟨u, xs, rfl, rfl, hn⟩ := normV_doc s p f h
  rw [hn]
  simp [serverApply, bindArgs_exact, normV, normPairs, sAssist, sLocation, sConfigure, nstr, asTuple]

theorem C15_server_lint {ω} (lib : Lib ω) (w : ω) (u : Bytes) (f so : Value)
    (hf : tupFree f = true) (hso : tupFree so = true) :
    serverApply lib (w, true) (.str sLint) (normV (.tup [.str u, f, so])) (normV (.map [])) =
      afterLint true (lib.lint w (.str u) f) := by
  simp only [normV, normList, normPairs, normV_of_tupFree f hf, normV_of_tupFree so hso, serverApply]
  simp [bindArgs_exact, sAssist, sLocation, sConfigure, sLint, nstr]

theorem C15_server_eval {ω} (lib : Lib ω) (w : ω) (hp : Bool) (u : Bytes) :
    serverApply lib (w, hp) (.str sEval) (normV (.tup [.str u])) (normV (.map [])) =
      (((lib.eval w (.str u)).1, hp), (lib.eval w (.str u)).2) := by
  simp [serverApply, bindArgs_exact, normV, normList, normPairs, sAssist, sLocation, sConfigure, sLint,
    sEval, nstr]

theorem C15_server_configure {ω} (lib : Lib ω) (w : ω) (hp : Bool) (cfg : Value) :
    serverApply lib (w, hp) (.str sConfigure) (normV (.tup [cfg])) (normV (.map [])) =
      afterConfigure hp (lib.newProject w (normV cfg)) := by
  simp [serverApply, bindArgs_exact, normV, normList, normPairs, sConfigure]

theorem C15_server_noproject {ω} (lib : Lib ω) (w : ω) (n : Bytes) (s p f : Value)
    (hn : n = sAssist ∨ n = sLocation) :
    serverApply lib (w, false) (.str n) (normV (.tup [s, p, f])) (normV (.map [])) =
      (((lib.noProject w).1, false), (lib.noProject w).2) := by
  rcases hn with rfl | rfl <;>
    simp [serverApply, bindArgs_exact, normV, normList, normPairs, sAssist, sLocation, sConfigure]

/-! ### non-vacuity: a toy API with a state-changing method, a raising one, one with an
    unserialisable result and "unknown method"; a sequence with failures in the middle -/

/-- state = a counter; `'i'` returns `(counter, ())` and increments; `'b'` raises `E('m')`;
    `'o'` returns `[object()]`; anything else: AttributeError-like -/
def toy : Api Nat := ⟨fun st name _ _ =>
  match name with
  | .str [105] => (st + 1, .ok (.tup [.int st, .tup []]))
  | .str [98] => (st, .raised (.str [69]) (.str [109]))
  | .str [111] => (st, .ok (.arr [.opaque]))
  | _ => (st, .raised (.str [65]) (.str [110, 111]))⟩

def toyReqs : List Req :=
  [⟨.str [105], [.tup [.int 1, .int 2]], []⟩, ⟨.str [98], [], [(.str [107], .nil)]⟩,
   ⟨.str [111], [], []⟩, ⟨.str [122], [.bin [0, 255]], []⟩, ⟨.str [105], [], []⟩]

example : (∀ r ∈ toyReqs, reqOK r = true) ∧ (∀ x ∈ (inproc toy 0 toyReqs).1, resOK x = true) := by
  decide

-- what `C15_transparent` then says about this session: the second, third and fourth request fail
-- (raise / unserialisable / unknown), the fifth still sees the counter the first one left
example : (session toy 0 toyReqs).1 =
    [.returned (.arr [.int 0, .arr []]), .exception (.str [109]), .exception (.str serErrMsg),
     .exception (.str [110, 111]), .returned (.arr [.int 1, .arr []])] := by
  rw [C15_transparent toy 0 toyReqs (by decide) (by decide)]
  rfl

-- `C15_isolated`: the split with `bad` = the unserialisable request is covered, and it is failing
example : failing (inprocStep toy (inproc toy 0 (toyReqs.take 2)).2 ⟨.str [111], [], []⟩).2 = true := by
  decide

-- `C15_close`: a `close` request in the data model
example : wf (Req.wire ⟨.str closeName, [], []⟩) = true := by decide

-- `C15_server_*`: documented argument types exist
example : docArgs (.str [120]) (.tup [.int 1, .int 0]) (.str [47, 97]) = true := by decide

-- argument binding: `lint(source, filename=f)` binds like `lint(source, f, False)`; an unknown keyword does not bind
example : bindArgs [(pSource, none), (pFilename, none), (pSyntaxOnly, some (.bool false))]
      [.str [120]] [(.str pFilename, .str [102])] = some [.str [120], .str [102], .bool false] ∧
    bindArgs [(pSource, none)] [] [(.str [120], .nil)] = none ∧
    bindArgs [(pSource, none)] [.nil, .nil] [] = none := by
  refine ⟨?_, ?_, ?_⟩ <;> rfl

-- (that `closeName`, `serErrMsg`, `sAssist`, … are the UTF-8 bytes of the strings in server.py is checked
-- on every run by the harness through the driver's `literals` request)

end SuppModel.Props.C15
