/-
  C10 — Unused-name diagnostics follow the exemption rules exactly.
  Property theorems ONLY (lemmas live in SuppModel/Lint/Lemmas.lean).

  `Generated.reportFull / reportDecision / reportMsgArg / reportLine / reportCol` are regenerated from the body
  of `for flow, name in scope.all_names:` in supp/linter.py on every run; `lintModel` (SuppModel/Lint/Model.lean)
  is the usage loop followed by that report loop over an abstract analysed module; `spec` (SuppModel/Lint/Spec.lean)
  is the property's sentence.
-/
import SuppModel.Lint.Lemmas
import SuppModel.Witness.C10

namespace SuppModel.Props.C10
open SuppModel.Lint

/-- the exemption chain of the code IS the sentence: for a name object without `used`, the chain reports
    exactly the code the sentence demands, with the wording of that kind -/
theorem C10_rule (s : SpecFacts) (h : s.Valid) :
    Generated.reportFull (s.toFacts false) = (spec s).map (fun c => (c, specMsg c)) ∧
    Generated.reportDecision (s.toFacts false) = spec s := by
  have h1 := rule_unused s h
  refine ⟨h1, ?_⟩
  rw [Generated.reportDecision, h1]
  cases spec s <;> rfl

/-- a name object marked `used` is never reported, whatever its other facts -/
theorem C10_rule_used (f : Facts) (h : f.used = true) :
    Generated.reportFull f = none ∧ Generated.reportDecision f = none := by
  have h1 := rule_used f h
  exact ⟨h1, by rw [Generated.reportDecision, h1]; rfl⟩

/-- in `lint`, a binding whose identifier is the id of no read, in a scope without a read of the builtin
    `locals`, is never marked used, and its name never enters `qualified_imports` -/
theorem C10_never_read_unused (m : Module) (b : Binding) (st : St)
    (hb : b ∈ m.allNames) (hk : TableWellKeyed m) (hs : RefsScoped m) (hn : NeverRead m b)
    (hrun : usage m = .ok st) :
    st.used.contains b.id = false ∧ st.qualified.contains b.name = false :=
  never_read_unused hb hk hs hn hrun

/-- hence it is reported if and only if the sentence says so -- with that code, the wording of its kind, its own
    name and its own `declared_at` -/
theorem C10_report_fields (m : Module) (b : Binding) (st : St)
    (hb : b ∈ m.allNames) (hk : TableWellKeyed m) (hs : RefsScoped m) (hn : NeverRead m b)
    (hrun : usage m = .ok st) (hv : (specFactsOf b false).Valid) :
    reportOf st b = (spec (specFactsOf b false)).map (ownDiag b) := by
  obtain ⟨hu, hq⟩ := never_read_unused hb hk hs hn hrun
  rw [reportOf, factsOf_eq, hu, hq, rule_unused _ hv, Option.map_map]
  rfl

/-- the answer of `lint` is the E-diagnostics of the usage loop followed by the reports; the W-diagnostics are
    exactly the reports of a sub-list of `all_names`, in order, each with the fields of its own binding -- nothing
    else is reported as unused -- and a binding listed once is reported at most once -/
theorem C10_once (m : Module) (ds : List Diag) (h : lintModel m = .ok ds) :
    ∃ st, usage m = .ok st ∧
      ds = st.diags ++ m.allNames.filterMap (reportOf st) ∧
      ds.filter Diag.isW = (reported st m.allNames).map (fun p => mkDiag p.1 p.2.1 p.2.2) ∧
      ((reported st m.allNames).map (·.1)).Sublist m.allNames ∧
      (NoDupIds m → ((reported st m.allNames).map (·.1.id)).Nodup) := by
  have hu := usage_eq m
  rw [lintModel_eq hu] at h
  cases h
  refine ⟨_, hu, rfl, ?_, reported_sublist .., reported_nodup _⟩
  -- the usage loop emits E-codes only, the report loop W-codes only
  rw [reported_diags, List.filter_append, List.filter_eq_nil_iff.mpr, List.filter_eq_self.mpr, List.nil_append]
  · intro d hd
    obtain ⟨p, _, rfl⟩ := List.mem_map.mp hd
    exact mkDiag_isW ..
  · intro d hd
    obtain ⟨r, _, hd⟩ := List.mem_flatMap.mp hd
    simp [delta_diags_notW r d hd]

/-- `lint` answers on every analysed module: no path of the usage loop or of the report loop raises -/
theorem C10_total : C10_total_stmt :=
  fun m => ⟨_, lintModel_eq (usage_eq m)⟩

/-- legacy (finding `lint-raises-multiname-locals`, fixed by f39595c): the previous usage loop raised on a module
    satisfying every hypothesis above, so its never-read local was not reported; the current loop reports it -/
theorem C10_legacy_witness :
    SuppModel.Witness.C10.Legacy.lintModel SuppModel.Witness.C10.crashModule = .error .attributeError ∧
    lintModel SuppModel.Witness.C10.crashModule = .ok [⟨"W01", "Unused name: zz", 2, 4⟩] :=
  ⟨SuppModel.Witness.C10.legacy_crash, SuppModel.Witness.C10.fixed_answer⟩

/-- a module exercising W01, W02, a method parameter, an underscore name, a dotted import used through its
    top-level name, a `__future__` import, and a read: all hypotheses hold and `lint` answers -/
def demo : Module where
  allNames := [
    ⟨0, "annotations", .imported "__future__" false false, .module, 0, false, (1, 23), (1, 34)⟩,
    ⟨1, "os", .imported "os" false true, .module, 0, false, (2, 7), (2, 14)⟩,
    ⟨2, "sys", .imported "sys" false false, .module, 0, false, (3, 7), (3, 10)⟩,
    ⟨3, "C", .classdef, .module, 0, false, (4, 6), (5, 4)⟩,
    ⟨4, "m", .funcdef, .cls, 1, false, (5, 8), (6, 8)⟩,
    ⟨5, "self", .argument, .function, 2, true, (5, 10), (6, 8)⟩,
    ⟨6, "y", .assigned, .function, 2, true, (6, 8), (6, 13)⟩,
    ⟨7, "_z", .assigned, .function, 2, true, (7, 8), (7, 14)⟩,
    ⟨8, "os", .imported "os" false true, .module, 0, false, (8, 7), (8, 17)⟩]
  reads := [
    ⟨"os", (9, 0), some ⟨0, [("os", .single ⟨some 8, "os", false, some 0, true⟩),
                            ("sys", .single ⟨some 2, "sys", false, some 0, false⟩),
                            ("C", .single ⟨some 3, "C", false, some 0, false⟩),
                            ("len", .single ⟨none, "len", true, none, false⟩)]⟩⟩,
    ⟨"undefined_thing", (9, 10), some ⟨0, []⟩⟩]

def demoY : Binding := ⟨6, "y", .assigned, .function, 2, true, (6, 8), (6, 13)⟩
def demoSys : Binding := ⟨2, "sys", .imported "sys" false false, .module, 0, false, (3, 7), (3, 10)⟩

-- `C10_rule`: valid facts exist on both sides of the rule (a star import, a plain local)
example : (⟨.module, .import_, false, false, false, true, false⟩ : SpecFacts).Valid ∧
    spec ⟨.module, .import_, false, false, false, true, false⟩ = none ∧
    (⟨.lambda, .parameter, false, false, false, false, false⟩ : SpecFacts).Valid ∧
    spec ⟨.lambda, .parameter, false, false, false, false, false⟩ = some .W01 ∧
    spec ⟨.function, .parameter, false, true, false, false, false⟩ = none ∧
    spec ⟨.cls, .import_, false, false, false, false, false⟩ = some .W02 := by decide

-- `C10_never_read_unused`, `C10_report_fields`: the hypotheses hold of `demo` for a W01 and a W02 binding
example : demoY ∈ demo.allNames ∧ demoSys ∈ demo.allNames ∧ TableWellKeyed demo ∧ RefsScoped demo ∧
    NeverRead demo demoY ∧ NeverRead demo demoSys ∧
    (specFactsOf demoY false).Valid ∧ (specFactsOf demoSys false).Valid ∧
    spec (specFactsOf demoY false) = some .W01 ∧ spec (specFactsOf demoSys false) = some .W02 := by decide +kernel

-- `C10_once`, `C10_total`: `lint` answers on `demo`; the first `os` is unused but exempt (dotted use)
example : NoDupIds demo := by decide +kernel
example : lintModel demo = .ok [
    ⟨"E02", "Undefined name: undefined_thing", 9, 10⟩,
    ⟨"W02", "Unused import: sys", 3, 7⟩,
    ⟨"W01", "Unused name: y", 6, 8⟩] :=
  (lintModel_eq (usage_eq demo)).trans (congrArg _ (by decide +kernel))

end SuppModel.Props.C10
