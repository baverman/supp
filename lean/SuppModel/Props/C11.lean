/-
  C11 — `find_id_loc`: the reported declaration position points at the name in the file.
  Every statement is about the executable model `findIdLoc` / `declaredAt` of SuppModel/Text/Model.lean,
  whose delimiter sets, window size and call sites are regenerated from supp/scope.py and supp/nast.py.
-/
import SuppModel.Text.FindIdLoc
import SuppModel.Text.Mark

namespace SuppModel.Props.C11
open SuppModel.Text

/-- line level: when the search succeeds, the text of the FILE at the reported line and column
    (minus the shift) is exactly `id`; the line lies inside the file and inside the window, never before
    the start position; in delimiter mode the occurrence is delimited within its line (start / end of
    line count as delimiters) -/
theorem C11_found (lines : List Str) (id : Str) (start : Nat × Nat) (shift : Nat) (delims : Bool)
    (hl : ∀ l ∈ lines, '\n' ∉ l) (hid : '\n' ∉ id) (hs : 1 ≤ start.1)
    (h : findIdLoc lines id start shift delims ≠ start) :
    let r := findIdLoc lines id start shift delims
    start.1 ≤ r.1 ∧ r.1 ≤ lines.length ∧ r.1 ≤ start.1 + Generated.windowAfter ∧ shift ≤ r.2 ∧
    (r.1 = start.1 → start.2 + shift < r.2) ∧
    ∃ l, lines[r.1 - 1]? = some l ∧ (l.drop (r.2 - shift)).take id.length = id ∧
      (delims = true →
        (r.2 - shift = 0 ∨ ∃ c, l[r.2 - shift - 1]? = some c ∧ c ∈ Generated.importDelims) ∧
        (l.length ≤ r.2 - shift + id.length ∨
          ∃ c, l[r.2 - shift + id.length]? = some c ∧ c ∈ Generated.importEndDelims)) := by
  obtain ⟨k, c, l, hr, hk, hlen, hw, hc, ho⟩ := findIdLocWith_found _ _ lines id start shift delims hl hid hs h
  rw [findIdLoc, hr]
  simp only [Nat.add_sub_cancel]
  exact ⟨Nat.le_add_right _ _, hlen, Nat.add_le_add_left hw _, Nat.le_add_left _ _,
    fun h0 => Nat.add_lt_add_right (hc (Nat.add_eq_left.1 h0)) _, l, hk,
    (List.prefix_iff_eq_take.1 ho.1).symm, fun hd => ⟨ho.2.2.1 hd, ho.2.2.2 hd⟩⟩

-- non-vacuity: `import os#c`, searching `os` from the keyword position
example : (∀ l ∈ ["import os#c".toList], '\n' ∉ l) ∧ '\n' ∉ "os".toList ∧ 1 ≤ ((1, 0) : Nat × Nat).1 ∧
    findIdLoc ["import os#c".toList] "os".toList (1, 0) 0 true ≠ (1, 0) := by decide_text

-- non-vacuity: a hit on a later line of a multi-line import, with a shift
example : (∀ l ∈ ["from a import (".toList, "  b, c)".toList], '\n' ∉ l) ∧ '\n' ∉ "c".toList ∧
    findIdLoc ["from a import (".toList, "  b, c)".toList] "c".toList (1, 0) 1 true = (2, 6) ∧
    findIdLoc ["from a import (".toList, "  b, c)".toList] "c".toList (1, 0) 1 true ≠ (1, 0) := by decide_text

/-- the lines supp searches are `util.splitlines(source)`: split at `\n`, `\r\n`, `\r` as the parser does, so they satisfy
    the hypothesis `hl` of `C11_found` (no line break inside a line) for every source text -/
theorem C11_lines_ok (source : Str) : ∀ l ∈ splitlines source, '\n' ∉ l ∧ '\r' ∉ l :=
  fun l hl => ⟨fun h => absurd (splitlinesWith_no_sep _ _ source l hl _ h) (by decide),
    fun h => absurd (splitlinesWith_no_sep _ _ source l hl _ h) (by decide)⟩

-- a form feed is not a line boundary (it was for str.splitlines, `Witness.C11.C11_formfeed_legacy`); \r\n is one boundary
example : splitlines "x = 1\n\x0c\nimport os\r\ndef f(): pass\n".toList =
    ["x = 1".toList, ['\x0c'], "import os".toList, "def f(): pass".toList] := by decide_text

/-- every generated binding site calls `find_id_loc` with a shift that compensates the blank it
    prepends to the name -/
theorem C11_sites_ok :
    siteOk Generated.funcSite = true ∧ siteOk Generated.classSite = true ∧
    siteOk Generated.importSite = true ∧ siteOk Generated.importFromSite = true := by
  decide

/-- for such a site (`siteOk site`: `site.shift = if site.spacePrefixed then 1 else 0`), a successful
    `declared_at` is the position of the name itself in the file -/
theorem C11_site (site : Generated.CallSite) (lines : List Str) (name : Str) (start : Nat × Nat)
    (hsite : siteOk site = true)
    (hl : ∀ l ∈ lines, '\n' ∉ l) (hname : '\n' ∉ name) (hs : 1 ≤ start.1)
    (h : declaredAt site lines name start ≠ start) :
    let r := declaredAt site lines name start
    ∃ l, lines[r.1 - 1]? = some l ∧ (l.drop r.2).take name.length = name ∧ 1 ≤ r.1 ∧ r.1 ≤ lines.length := by
  obtain ⟨sp, sh, dl⟩ := site
  obtain rfl : sh = if sp then 1 else 0 := beq_iff_eq.1 hsite
  have hid : '\n' ∉ (if sp then ' ' :: name else name) := by
    cases sp
    · exact hname
    · exact fun hh => (List.mem_cons.1 hh).elim (by decide) hname
  obtain ⟨k, c, l, hr, hk, hlen, -, -, ho⟩ := findIdLocWith_found _ _ lines _ start _ dl hl hid hs h
  rw [declaredAt, findIdLoc, hr]
  refine ⟨l, hk, ?_, Nat.le_trans hs (Nat.le_add_right _ _), hlen⟩
  -- the column is that of the name: right of the blank, if one was prepended
  have hpre : name <+: l.drop (c + if sp then 1 else 0) := by
    cases sp
    · exact ho.1
    · obtain ⟨t, ht⟩ := ho.1
      exact ⟨t, by rw [← List.drop_drop, ← ht]; rfl⟩
  exact (List.prefix_iff_eq_take.1 hpre).symm

-- non-vacuity: the generated def site on `async def d(): pass`
example : siteOk Generated.funcSite = true ∧ (∀ l ∈ ["async def d(): pass".toList], '\n' ∉ l) ∧
    '\n' ∉ "d".toList ∧
    declaredAt Generated.funcSite ["async def d(): pass".toList] "d".toList (1, 0) ≠ (1, 0) := by decide_text

-- non-vacuity: a space-prefixed site (the legacy def / class call) also satisfies `siteOk`
example : siteOk { spacePrefixed := true, shift := 1, delims := false } = true ∧
    declaredAt { spacePrefixed := true, shift := 1, delims := false }
      ["class A: pass".toList] "A".toList (1, 0) = (1, 6) := by decide_text

/-- window level: the search falls back to `start` exactly when the window has no (delimited)
    occurrence after the start offset -/
theorem C11_found_iff (lines : List Str) (id : Str) (start : Nat × Nat) (shift : Nat) (delims : Bool) :
    findIdLoc lines id start shift delims = start ↔
      ∀ p, start.2 < p →
        ¬ OccAt Generated.importDelims Generated.importEndDelims (window lines start.1) id delims p := by
  rcases findIdLocWith_cases _ _ lines id start shift delims with ⟨e, hno⟩ | ⟨p, hp, ho, -, e⟩
  · exact iff_of_true e hno
  · refine iff_of_false ?_ fun hno => hno p hp ho
    rw [findIdLoc, e]
    exact found_ne_start shift ho.le_length hp

-- non-vacuity: both sides occur (`osx` does not contain a delimited `os`; `os, osx` does)
example : findIdLoc ["import osx".toList] "os".toList (1, 0) 0 true = (1, 0) ∧
    findIdLoc ["import os, osx".toList] "os".toList (1, 0) 0 true ≠ (1, 0) ∧
    OccAt Generated.importDelims Generated.importEndDelims (window ["import os, osx".toList] 1)
      "os".toList true 7 := by decide_text

/-- it returns the FIRST delimited occurrence after the start offset, reported as line / column of
    the window -/
theorem C11_first (lines : List Str) (id : Str) (start : Nat × Nat) (shift : Nat) (delims : Bool)
    (h : findIdLoc lines id start shift delims ≠ start) :
    ∃ p, start.2 < p ∧
      OccAt Generated.importDelims Generated.importEndDelims (window lines start.1) id delims p ∧
      (∀ q, start.2 < q → q < p →
        ¬ OccAt Generated.importDelims Generated.importEndDelims (window lines start.1) id delims q) ∧
      findIdLoc lines id start shift delims =
        (start.1 + (lineCol (window lines start.1) p).1, (lineCol (window lines start.1) p).2 + shift) :=
  (findIdLocWith_cases _ _ lines id start shift delims).resolve_left fun e => h e.1

-- non-vacuity: two delimited occurrences, the first one (offset 7, not 20) is reported
example : findIdLoc ["import os, osx, os2 as os".toList] "os".toList (1, 0) 0 true ≠ (1, 0) ∧
    OccAt Generated.importDelims Generated.importEndDelims
      (window ["import os, osx, os2 as os".toList] 1) "os".toList true 7 ∧
    OccAt Generated.importDelims Generated.importEndDelims
      (window ["import os, osx, os2 as os".toList] 1) "os".toList true 23 := by decide_text

/-- lint and location report the same position for the same binding.  `lint` analyses the text as it is and reports
    `b.declaredAt`; `location` analyses the text with the mark inserted at `cursor`, where the same binding stands at
    `markedPos cursor b.declaredAt`, and un-shifts it: the two reports coincide (and the file is handed through) -/
theorem C11_same (b : Binding) (cursor : Nat × Nat) (code msg : Str) :
    (locationEntry b.filename cursor { b with declaredAt := markedPos cursor b.declaredAt }).loc =
        ((lintEntry code msg b).line, (lintEntry code msg b).col) ∧
      (locationEntry b.filename cursor { b with declaredAt := markedPos cursor b.declaredAt }).file = b.filename :=
  ⟨locationEntry_markedPos b.filename cursor b.declaredAt b rfl, rfl⟩

-- `x = 1\n[nn for nn in x]`, cursor at (2, 3): the binding `nn` at (2, 8) is seen at (2, 21) and reported at (2, 8)
example : markedPos (2, 3) (2, 8) = (2, 21) ∧
    (locationEntry "m.py".toList (2, 3) { name := "nn".toList, declaredAt := (2, 21), filename := "m.py".toList }).loc = (2, 8) ∧
    (lintEntry "W01".toList "Unused name: ".toList
      { name := "nn".toList, declaredAt := (2, 8), filename := "m.py".toList }).col = 8 := by decide_text

/-- the marked analysis sees a binding of the unmarked text `|MARK|` columns further right exactly when it lies on the
    cursor's line at or right of the cursor column -/
theorem C11_mark_shift (cursor p : Nat × Nat) :
    markedPos cursor p = (p.1, p.2 + Generated.sourceMark.length) ∧ markedPos cursor p ≠ p ↔
      p.1 = cursor.1 ∧ cursor.2 ≤ p.2 := by
  have hm : 0 < Generated.sourceMark.length := by decide
  unfold markedPos
  by_cases h : p.1 = cursor.1 ∧ cursor.2 ≤ p.2
  · simp only [h, and_self, if_true, true_and, iff_true]
    intro hc
    have := congrArg Prod.snd hc
    simp only at this
    omega
  · simp only [h, if_false, iff_false]
    exact fun hc => hc.2 rfl

example : markedPos (2, 3) (2, 3) = (2, 16) ∧ markedPos (2, 3) (2, 1) = (2, 1) ∧ markedPos (2, 3) (1, 8) = (1, 8) := by decide_text

/-- ... which is what inserting the mark does to the text: from the cursor column on, the characters of the line stand
    `|MARK|` columns further right; left of it nothing moves -/
theorem C11_mark_text (line : Str) (col c : Nat) (hcol : col ≤ line.length) :
    (col ≤ c → (markLine line col).drop (c + Generated.sourceMark.length) = line.drop c) ∧
    (c ≤ col → (markLine line col).take c = line.take c) := by
  have h1 : (line.take col).length = col := by rw [List.length_take]; omega
  refine ⟨fun hc => ?_, fun hc => ?_⟩
  · rw [markLine, List.append_assoc,
      show c + Generated.sourceMark.length = (line.take col).length + (Generated.sourceMark.length + (c - col)) by omega,
      ← List.drop_drop, List.drop_left, ← List.drop_drop, List.drop_left, List.drop_drop]
    congr 1; omega
  · rw [markLine, List.append_assoc, List.take_append_of_le_length (by omega), List.take_take, Nat.min_eq_left hc]

example : (markLine "[nn for nn in x]".toList 3).drop (8 + 13) = "nn in x]".toList := by decide_text

/-- positions the mark does not move (another file, another line, left of or at the cursor) are reported as they are -/
theorem C11_location_unmoved (f : Str) (cursor : Nat × Nat) (b : Binding)
    (h : b.filename ≠ f ∨ b.declaredAt.1 ≠ cursor.1 ∨ b.declaredAt.2 ≤ cursor.2) :
    (locationEntry f cursor b).loc = b.declaredAt := by
  have : ¬ (b.filename = f ∧ b.declaredAt.1 = cursor.1 ∧ b.declaredAt.2 > cursor.2) := by
    rintro ⟨h1, h2, h3⟩
    rcases h with h | h | h
    · exact h h1
    · exact h h2
    · omega
  simp only [locationEntry, if_neg this]

example : (locationEntry "m.py".toList (2, 3) { name := "x".toList, declaredAt := (1, 0), filename := "m.py".toList }).loc = (1, 0) ∧
    (locationEntry "m.py".toList (2, 3) { name := "j".toList, declaredAt := (2, 40), filename := "os.py".toList }).loc = (2, 40) := by
  decide_text

/-! ### the full-strength statement is FALSE of the code (open findings)

`C11_found` / `C11_site` say: IF the search succeeds, the position is right.  The property also needs the search
to succeed whenever the bound name stands in the file after the statement start as a token of its own.
That is false today (`Witness.C11.C11_window_limit`): a name more than `windowAfter` lines below the statement
start is not found (finding C11-window-51-lines).  (A name directly followed by `[`, `class A[T]:`, was a second
counterexample until commit 50717df added `[` to the end delimiters.)
`C11_found_iff` is the exact partial statement: the search succeeds iff a
DELIMITED occurrence lies INSIDE THE WINDOW. -/

/-- ASCII identifier characters -/
def identChar (c : Char) : Bool := c.isAlphanum || c == '_'

/-- whenever `id` stands at line `k ≥ start.1`, column `c` of the file (after the start offset if on the start
    line), with no identifier character on either side, the search does not fall back -/
def C11_stmt : Prop :=
  ∀ (lines : List Str) (id : Str) (start : Nat × Nat) (k c : Nat) (l : Str),
    1 ≤ start.1 → start.1 ≤ k → lines[k - 1]? = some l → (l.drop c).take id.length = id → id ≠ [] →
    (k = start.1 → start.2 < c) →
    (c = 0 ∨ ∃ x, l[c - 1]? = some x ∧ identChar x = false) →
    (l.length ≤ c + id.length ∨ ∃ x, l[c + id.length]? = some x ∧ identChar x = false) →
    findIdLoc lines id start 0 true ≠ start

end SuppModel.Props.C11
