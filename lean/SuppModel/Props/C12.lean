/-
  C12 — completion: the prefix is exactly the identifier run left of the cursor; the proposals are a
  sorted, duplicate-free list that never contains the cursor marker; inserting the mark inside an
  identifier and unmarking gives the identifier back.
  Every statement is about the executable model of SuppModel/Text/Model.lean; `isWord` (Python's `\w`)
  is an abstract parameter.
-/
import SuppModel.Text.Prefix
import SuppModel.Text.Proposals
import SuppModel.Text.Mark

namespace SuppModel.Props.C12
open SuppModel.Text

/-- `re.split(r'\W', line)[-1]` is the longest run of word characters that ends at the cursor -/
theorem C12_prefix (isWord : Char → Bool) (line : Str) :
    prefixOf isWord line = identSuffix isWord line :=
  prefixOf_eq isWord line

example : prefixOf asciiWord ['x', '=', 'f', 'o'] = ['f', 'o'] ∧
    identSuffix asciiWord ['x', '=', 'f', 'o'] = ['f', 'o'] := by decide_text

/-- `identSuffix` is what its name says: a suffix, made of word characters, and the longest such -/
theorem C12_prefix_spec (isWord : Char → Bool) (line : Str) :
    identSuffix isWord line <:+ line ∧ (identSuffix isWord line).all isWord = true ∧
      ∀ s, s <:+ line → s.all isWord = true → s.length ≤ (identSuffix isWord line).length :=
  ⟨identSuffix_suffix isWord line, identSuffix_all isWord line,
   fun s hs ha => identSuffix_longest isWord line s hs ha⟩

-- a word suffix that is strictly shorter than the prefix exists (the bound is not trivially tight)
example : (['o'] : Str) <:+ ['x', '=', 'f', 'o'] ∧ (['o'] : Str).all asciiWord = true ∧
    (['o'] : Str).length < (identSuffix asciiWord ['x', '=', 'f', 'o']).length := by
  refine ⟨⟨['x', '=', 'f'], rfl⟩, by decide, by decide⟩

/-- it cannot be extended to the left: the line is all of it, or the character before it is not a
    word character -/
theorem C12_prefix_maximal (isWord : Char → Bool) (line : Str) :
    identSuffix isWord line = line ∨
      ∃ pre c, line = pre ++ c :: identSuffix isWord line ∧ isWord c = false :=
  identSuffix_maximal isWord line

-- both sides occur
example : identSuffix asciiWord ['f', 'o'] = ['f', 'o'] ∧
    (['x', '=', 'f', 'o'] : Str) = ['x'] ++ '=' :: identSuffix asciiWord ['x', '=', 'f', 'o'] ∧
    asciiWord '=' = false := by decide_text

/-- when the pattern matches, the module text ends the line, consists of word characters and dots, and follows a
    whitespace character -/
theorem C12_from_match (isWord : Char → Bool) (line m : Str) (h : fromMatch isWord line = some m) :
    (∃ pre w, line = pre ++ w :: m ∧ pyIsSpace w = true) ∧ m.all (fun c => isWord c || c == '.') = true :=
  fromMatch_shape isWord line m h

example : fromMatch asciiWord "  from\t os.pa".toList = some "os.pa".toList ∧
    fromMatch asciiWord "from os import(pa".toList = none ∧ fromMatch asciiWord "fromage".toList = none ∧
    fromMatch asciiWord "from ".toList = some [] := by decide_text

/-- the full statement for the `from` branch (false of the code before ab8463e, `Witness.C12.C12_from_legacy_false`):
    the returned prefix, the text after the last dot of the module text, IS the longest run of word characters left of
    the cursor.  Hypotheses on the abstract word class: no whitespace character and not the dot (true of `\w`). -/
theorem C12_from_stmt (isWord : Char → Bool) (line m : Str)
    (hsp : ∀ c, pyIsSpace c = true → isWord c = false) (hdot : isWord Generated.fromSep2 = false)
    (h : fromMatch isWord line = some m) : fromPrefixOf m = identSuffix isWord line :=
  fromPrefixOf_eq_identSuffix isWord line m hsp hdot h

-- the hypotheses hold for the ASCII word class; `from os.pa|` is in the branch and gives `pa`
example : (∀ c, pyIsSpace c = true → asciiWord c = false) ∧ asciiWord Generated.fromSep2 = false ∧
    fromMatch asciiWord "from os.pa".toList = some "os.pa".toList ∧ fromPrefixOf "os.pa".toList = "pa".toList :=
  ⟨asciiWord_not_space, by decide, by decide, by decide⟩

/-- so on EVERY line (all three prefix sites of assist: `from` branch, marked import, generic) the first component of
    assist's result is the longest run of word characters left of the cursor -/
theorem C12_assist_prefix (isWord : Char → Bool) (line : Str)
    (hsp : ∀ c, pyIsSpace c = true → isWord c = false) (hdot : isWord Generated.fromSep2 = false) :
    assistPrefix isWord line = identSuffix isWord line := by
  unfold assistPrefix
  split
  · next m hm => exact fromPrefixOf_eq_identSuffix isWord line m hsp hdot hm
  · exact prefixOf_eq isWord line

-- `(` or a tab where a blank is usual (the legacy branch: `Witness.C12.from_paren`, `from_tab`), and the plain case
example : assistPrefix asciiWord "from os import(pa".toList = "pa".toList ∧
    assistPrefix asciiWord "from os\timpo".toList = "impo".toList ∧
    assistPrefix asciiWord "from \tr".toList = "r".toList ∧
    assistPrefix asciiWord "from os.pa".toList = "pa".toList := by decide_text

/-- `<=` on str is a total order (reflexive, transitive, total, antisymmetric): "sorted" determines
    the list -/
theorem C12_order :
    (∀ a, strLe a a = true) ∧
    (∀ a b c, strLe a b = true → strLe b c = true → strLe a c = true) ∧
    (∀ a b, strLe a b = true ∨ strLe b a = true) ∧
    (∀ a b, strLe a b = true → strLe b a = true → a = b) :=
  ⟨fun a => (strLe_iff_le a a).2 (List.le_refl a), strLe_trans, strLe_total,
   fun a b h1 h2 => List.le_antisymm ((strLe_iff_le a b).1 h1) ((strLe_iff_le b a).1 h2)⟩

example : strLe ['a', 'b'] ['a', 'c'] = true ∧ strLe ['a', 'c'] ['a', 'b'] = false ∧
    strLe ['a'] ['a', 'b'] = true := by decide_text

/-- the proposals are strictly sorted: sorted and free of duplicates -/
theorem C12_sorted_nodup {α} (t : List (Str × α)) :
    (proposals t).Pairwise (fun a b => strLe a b = true ∧ a ≠ b) :=
  List.Pairwise.and (sortStr_sorted _)
    ((proposals_perm t).nodup_iff.mpr (List.Pairwise.filter _ (nodup_eraseDups _)))

/-- they are the unmarked keys of the table -/
theorem C12_proposals_mem {α} (t : List (Str × α)) (n : Str) :
    n ∈ proposals t ↔ (∃ v, (n, v) ∈ t) ∧ marked n = false :=
  proposals_mem t n

-- a table with a repeated key, unsorted
example : proposals [(['b'], 1), (['a'], 2), (['b'], 3), (['a', 'b'], 4)] = [['a'], ['a', 'b'], ['b']] := by
  decide_text

/-- `SOURCE_MARK in s` is: the mark is a contiguous sublist of `s` -/
theorem C12_marked_iff (n : Str) : marked n = true ↔ Generated.sourceMark <:+: n :=
  contains_iff n Generated.sourceMark

example : marked (['b', 'a'] ++ Generated.sourceMark ++ ['r']) = true ∧ marked ['b', 'a', 'r'] = false := by
  decide_text

/-- no proposal contains the cursor marker -/
theorem C12_no_mark {α} (t : List (Str × α)) :
    ∀ n ∈ proposals t, ¬ (Generated.sourceMark <:+: n) :=
  fun n hn hi => Bool.false_ne_true (((proposals_mem t n).mp hn).2 ▸ (contains_iff n Generated.sourceMark).mpr hi)

-- the marked key (the name under the cursor) is dropped, the others stay
example : proposals [(['b', 'a'] ++ Generated.sourceMark ++ ['r'], ()), (['b', 'a', 'r'], ())] =
    [['b', 'a', 'r']] := by decide_text

/-- specification of `str.find` as the model computes it: the first offset at which `sub` is a prefix -/
theorem C12_find_spec (sub s : Str) (i k : Nat) :
    (findAux sub s i = some (i + k) ↔
      k ≤ s.length ∧ sub <+: s.drop k ∧ ∀ j, j < k → ¬ sub <+: s.drop j) ∧
    (findAux sub s i = none ↔ ∀ k, k ≤ s.length → ¬ sub <+: s.drop k) :=
  ⟨by simp only [findAux_some, Nat.add_left_cancel_iff, exists_eq_left'], findAux_none sub s i⟩

example : pyFind ['a', 'b', 'c', 'b', 'c'] ['b', 'c'] 0 = some 1 ∧
    pyFind ['a', 'b', 'c', 'b', 'c'] ['b', 'c'] 2 = some 3 ∧
    pyFind ['a', 'b', 'c', 'b', 'c'] ['c', 'a'] 0 = none := by decide_text

/-- `noEarlyMark a`: no occurrence of the mark starts inside `a` once the mark is appended -/
theorem C12_noEarlyMark_iff (a : Str) :
    noEarlyMark a = true ↔
      ∀ i, i < a.length → ¬ Generated.sourceMark <+: (a ++ Generated.sourceMark).drop i :=
  noEarlyMark_iff a

/-- in particular when there is no underscore left of the cursor -/
theorem C12_noEarlyMark_of_no_underscore (a : Str) (h : '_' ∉ a) : noEarlyMark a = true := by
  rw [noEarlyMark_iff]
  intro i hi hp
  -- the mark begins with an underscore, so `a[i]` would be one
  rw [List.drop_eq_getElem_cons (by rw [List.length_append]; omega), List.getElem_append_left hi] at hp
  exact h ((List.cons_prefix_cons.1 hp).1 ▸ List.getElem_mem hi)

example : noEarlyMark ['o', 's', '.', 'p', 'a'] = true ∧ noEarlyMark ['_', '_', 'i', 'n'] = true ∧
    noEarlyMark ['_', '_', 's', 'u', 'p', 'p', '_', 'm', 'a', 'r', 'k'] = false := by decide_text

/-- unmarking removes the inserted mark and cuts at the first `'.'` right of it, provided the inserted
    mark is the first occurrence of the mark -/
theorem C12_unmark (a b : Str)
    (h : ∀ i, i < a.length → ¬ Generated.sourceMark <+: (a ++ Generated.sourceMark).drop i) :
    unmark (a ++ Generated.sourceMark ++ b) = a ++ b.takeWhile (· != '.') :=
  unmark_insert a b h

/-- the same with the decidable hypothesis -/
theorem C12_unmark_bool (a b : Str) (h : noEarlyMark a = true) :
    unmark (a ++ Generated.sourceMark ++ b) = a ++ b.takeWhile (· != '.') :=
  unmark_insert a b ((noEarlyMark_iff a).mp h)

example : unmark (['o', 's', '.', 'p', 'a'] ++ Generated.sourceMark ++ ['t', 'h', '.', 'x']) =
    ['o', 's', '.', 'p', 'a', 't', 'h'] := by decide_text

/-- a marked line is marked, wherever the cursor is -/
theorem C12_marked_markLine (line : Str) (col : Nat) : marked (markLine line col) = true :=
  (contains_iff _ _).2 ⟨_, _, rfl⟩

example : markLine ['f', 'o', 'o'] 7 = ['f', 'o', 'o'] ++ Generated.sourceMark := by decide_text

/-- the cursor is transparent: marking inside an identifier (no `'.'` right of the cursor) and
    unmarking gives the identifier back -/
theorem C12_unmark_ident (ident : Str) (col : Nat) (hdot : '.' ∉ ident.drop col)
    (h : noEarlyMark (ident.take col) = true) : unmark (markLine ident col) = ident := by
  rw [markLine, unmark_insert _ _ ((noEarlyMark_iff _).mp h), takeWhile_ne_of_not_mem _ _ hdot,
    List.take_append_drop]

example : '.' ∉ (['p', 'a', 't', 'h'] : Str).drop 2 ∧
    noEarlyMark ((['p', 'a', 't', 'h'] : Str).take 2) = true ∧
    unmark (markLine ['p', 'a', 't', 'h'] 2) = ['p', 'a', 't', 'h'] := by decide_text

/-- dotted import names: unmarking keeps the components up to the one under the cursor -/
theorem C12_unmark_dotted (a b c : Str) (hb : '.' ∉ b) (h : noEarlyMark a = true) :
    unmark (a ++ Generated.sourceMark ++ b ++ '.' :: c) = a ++ b := by
  rw [List.append_assoc (a ++ Generated.sourceMark), unmark_insert _ _ ((noEarlyMark_iff a).mp h),
    takeWhile_ne_append '.' b c hb]

example : '.' ∉ (['t', 'h'] : Str) ∧ noEarlyMark ['o', 's', '.', 'p', 'a'] = true ∧
    unmark (['o', 's', '.', 'p', 'a'] ++ Generated.sourceMark ++ ['t', 'h'] ++ '.' :: ['j', 'o', 'i', 'n']) =
      ['o', 's', '.', 'p', 'a', 't', 'h'] := by decide_text

end SuppModel.Props.C12
