/-
  Extract — theorems about the Lean transliteration of supp's extractor (`nast.extract_visitor`,
  `scope.py`'s constructors): property statements ONLY; lemmas are in SuppModel/Extract/Lemmas*.lean.

  `extract lines mods tree : Except Err St` is the function the driver `drv_extract` runs and the
  correspondence (harness/extractcorr.py) compares, field by field, with the graph the real extractor
  builds for the same file.  Hypotheses are decidable predicates on the serialised tree, evaluated by
  the driver on every real tree of every run (`wellShaped`, `noTypeParams`).
-/
import SuppModel.Extract.LemmasTotal
import SuppModel.Extract.LemmasCover
import SuppModel.Extract.LemmasWf
import SuppModel.Extract.LemmasWfFull
import SuppModel.Flow.Scoping
import SuppModel.Props.C05
import SuppModel.Extract.LemmasLayoutGraph
import SuppModel.Extract.LemmasLayoutPair
import SuppModel.Props.C13
import SuppModel.Extract.LemmasRank
import SuppModel.Props.C08Flow
import SuppModel.Extract.LemmasRename

namespace SuppModel.Props.Extract
open SuppModel.Flow SuppModel.Extract

/-- TOTALITY: on a well-shaped tree (every node has the fields its class has in the interpreter's grammar,
    with values of the kind the visit methods read) the extractor raises nothing - no AttributeError, no
    IndexError - and the recursion budget `extract` supplies (the size of the tree) is never exhausted:
    it returns a graph, whatever the source lines and whatever the project resolves star imports to. -/
theorem extract_total (lines : List Text.Str) (mods : List (String × List String)) (t : Ast)
    (h : wellShaped t = true) : ∃ st, extract lines mods t = .ok st :=
  extract_total' lines mods t h

/-- NO E42 (C01): every `Name` node with `ctx = Load()` of a well-shaped tree whose `def`s and `class`es
    have no PEP 695 type parameters is given a flow by the extractor (`name.flow` is set), so the linter
    never reports "UNKNOWN NAME" for it.  By induction over ALL node classes: each visit method visits,
    directly or through `generic_visit`, every child that can contain an expression. -/
theorem extract_every_load_has_flow (lines : List Text.Str) (mods : List (String × List String)) (t : Ast) (st : St)
    (hw : wellShaped t = true) (ht : noTypeParams t = true) (h : extract lines mods t = .ok st) :
    ∀ k ∈ loads t, st.hasFlow k :=
  extract_loads' lines mods t st hw ht h

/-- the statement without the restriction on type parameters: FALSE of the current code
    (`visit_FunctionDef` / `visit_ClassDef` never look at `node.type_params`), refuted in
    SuppModel/Witness/Extract.lean on `def f[T: b](): pass` -/
def extract_every_load_has_flow_stmt : Prop :=
  ∀ (lines : List Text.Str) (mods : List (String × List String)) (t : Ast) (st : St),
    wellShaped t = true → extract lines mods t = .ok st → ∀ k ∈ loads t, st.hasFlow k

/-- SORTED REGIONS: every flow's `_names` in the extracted graph is sorted by location - for EVERY tree the
    extractor returns a graph for (no shape hypothesis).  This is the hypothesis of `C13_bisect_sorted`:
    `names_at` = "the bindings located at or before the query position". -/
theorem extract_names_sorted (lines : List Text.Str) (mods : List (String × List String)) (t : Ast) (st : St)
    (h : extract lines mods t = .ok st) : ∀ f ∈ (st.toGraph []).flows, sortedByLoc f.names = true :=
  extract_sorted' lines mods t st h

/-- the induction principle behind it, usable for any invariant: what holds initially and is kept by each of
    the 15 primitive actions of the extractor (the fields of `Preserved`) holds of every extracted state -/
theorem extract_invariant (P : St → Prop) (hP : Preserved P) (h0 : P St.init) (lines : List Text.Str)
    (mods : List (String × List String)) (t : Ast) (st : St) (h : extract lines mods t = .ok st) : P st :=
  extract_preserves hP h0 lines mods t st h

/-- WELL-FORMEDNESS: the graph of EVERY tree the extractor returns a state for (no shape hypothesis) satisfies the
    decidable `Graph.wf` of SuppModel/Flow/Scoping.lean - name ids, flow ids and scope ids are unique, the names of a
    flow carry its scope, a flow's predecessors (loop edges included) exist and lie in the same scope, every scope's
    final flow belongs to it, there is one module scope, scope parent chains are finite, the scope of every flow
    exists.  Proved from an invariant of the extractor's state kept by each action of the interpreter, the key
    ingredient being what a visit method's local variables can hold: an EXISTING flow of the CURRENT scope. -/
theorem extract_wf (lines : List Text.Str) (mods : List (String × List String)) (t : Ast) (st : St)
    (builtins : List String) (h : extract lines mods t = .ok st) : (st.toGraph builtins).wf = true :=
  good_wf (extract_good lines mods t st h) builtins

/-- so the C05 theorems hold of every extracted graph outright (their `wf` hypothesis is discharged):
    every binding a flow's table can contain is owned by a scope on the flow's lookup chain -/
theorem extract_C05_chain (lines : List Text.Str) (mods : List (String × List String)) (t : Ast) (st : St)
    (builtins : List String) (h : extract lines mods t = .ok st) (n : Nat) (R : List Nat) (f : Nat) (fr : FlowRec)
    (tbl : Tbl) (hf : (st.toGraph builtins).flow? f = some fr) (ht : flowNames (st.toGraph builtins) n R f = some tbl) :
    tbl.ownedBy (st.toGraph builtins) (lookupChain (st.toGraph builtins) fr.scope) :=
  SuppModel.Props.C05.C05_chain _ (extract_wf lines mods t st builtins h) n R f fr tbl hf ht

/-- the same at a query position (`names_at`) -/
theorem extract_C05_chain_at (lines : List Text.Str) (mods : List (String × List String)) (t : Ast) (st : St)
    (builtins : List String) (h : extract lines mods t = .ok st) (n : Nat) (f : Nat) (fr : FlowRec) (pos : Pos)
    (tbl : Tbl) (hf : (st.toGraph builtins).flow? f = some fr) (ht : namesAt (st.toGraph builtins) n [] f pos = some tbl) :
    tbl.ownedBy (st.toGraph builtins) (lookupChain (st.toGraph builtins) fr.scope) :=
  SuppModel.Props.C05.C05_chain_at _ (extract_wf lines mods t st builtins h) n f fr pos tbl hf ht

/-- a name local to a function is never satisfied by an outer or builtin binding, in every extracted graph -/
theorem extract_C05_local_not_outer (lines : List Text.Str) (mods : List (String × List String)) (t : Ast) (st : St)
    (builtins : List String) (h : extract lines mods t = .ok st) (n : Nat) (R : List Nat) (f : Nat)
    (fr : FlowRec) (sc : ScopeRec) (tbl : Tbl) (x : String) (v : Val)
    (hf : (st.toGraph builtins).flow? f = some fr) (hs : (st.toGraph builtins).scope? fr.scope = some sc)
    (hk : sc.kind = .func) (hx : x ∈ sc.locals) (ht : flowNames (st.toGraph builtins) n R f = some tbl)
    (hv : tbl.get? x = some v) :
    ∀ a ∈ v, (a = Alt.undef x) ∨
      (∃ id nr, a = Alt.nm id ∧ (st.toGraph builtins).name? id = some nr ∧ nr.scope = fr.scope ∧
        ¬ (st.toGraph builtins).isGlobal id) :=
  SuppModel.Props.C05.C05_local_not_outer _ (extract_wf lines mods t st builtins h) n R f fr sc tbl x v hf hs hk hx ht hv

/-- RANKED: every extracted graph is `Graph.ranked` (acyclic once loop back edges are ignored, closed under
    reference) - the rank  (index of the flow's scope) * (#flows + 1) + (creation index of the flow)  decreases along
    every non-loop call of the evaluator: an ordinary predecessor is an earlier flow of the same scope; a root flow
    depends on the final flow of the scope its scope's parent chain resolves to (class scopes delegate upwards), a
    scope with a smaller index since scope parents are earlier scopes, and a final flow belongs to its scope
    (`good_validRankU`, then `C08_ranked_complete_unbounded`). -/
theorem extract_ranked (lines : List Text.Str) (mods : List (String × List String)) (t : Ast) (st : St)
    (builtins : List String) (h : extract lines mods t = .ok st) : (st.toGraph builtins).ranked = true :=
  SuppModel.Props.C08Flow.C08_ranked_complete_unbounded _ (rankArr st)
    (good_validRankU (extract_good lines mods t st h) builtins)

/-- C08 AT EXTRACTOR LEVEL: on every extracted graph the table evaluator terminates - the table of every existing
    flow is computed whatever loops are cut, and every query of every history (on existing flows) is answered by the
    memoised evaluator - with any fuel ≥ `rankFuel` -/
theorem extract_C08 (lines : List Text.Str) (mods : List (String × List String)) (t : Ast) (st : St)
    (builtins : List String) (h : extract lines mods t = .ok st) (n : Nat) (hn : (st.toGraph builtins).rankFuel ≤ n) :
    (∀ (f : Nat) (fr : FlowRec), (st.toGraph builtins).flow? f = some fr → ∀ R : List Nat,
        (flowNames (st.toGraph builtins) n R f).isSome) ∧
    (∀ (qs : List Query), (∀ q ∈ qs, ((st.toGraph builtins).flow? q.flow).isSome) →
        ∀ (i : Nat) (q : Query), qs[i]? = some q → ((runQueries (st.toGraph builtins) n {} qs)[i]?.bind id).isSome) :=
  have hr := extract_ranked lines mods t st builtins h
  ⟨fun f fr hf R => SuppModel.Props.C08Flow.C08_eval_terminates _ hr f fr hf R n hn,
   fun qs hq i q hi => SuppModel.Props.C08Flow.C08_history_answers _ hr n hn qs hq i q hi⟩

/-- FORWARD EDGES: in every extracted graph a flow's ordinary predecessors (`.flow q`; loop edges excepted) were
    created before it, and a scope's parent before the scope: creation index is a rank for the edges inside a
    scope.  (Creation index alone is not a rank: a root flow also depends on the FINAL flow of the enclosing function /
    module scope, created later than the inner scope's flows; `extract_ranked` orders by scope index first.) -/
theorem extract_forward_edges (lines : List Text.Str) (mods : List (String × List String)) (t : Ast) (st : St)
    (h : extract lines mods t = .ok st) :
    (∀ (i : Nat) (f : FlowRec), st.flows[i]? = some f → ∀ q, Parent.flow q ∈ f.parents → q < i) ∧
    (∀ (i : Nat) (s : ScopeSt), st.scopes[i]? = some s → s.parent = none ∨ ∃ p, s.parent = some p ∧ p < i) := by
  have hg := extract_good lines mods t st h
  exact ⟨fun i _ hf => hg.struct.fwd i _ (fsk_get hf), fun i _ hs => hg.struct.parent i _ (ssk_get hs)⟩

/-- the first part of `extract_wf` in explicit form, for EVERY tree the extractor returns a graph for: flow ids and scope ids
    are creation indices (so they are unique and `Graph.flow?` / `Graph.scope?` are list indexing), and every
    name of a flow carries that flow's scope -/
theorem extract_wf_partial (lines : List Text.Str) (mods : List (String × List String)) (t : Ast) (st : St)
    (h : extract lines mods t = .ok st) :
    (∀ (i : Nat) (f : FlowRec), (st.toGraph []).flows[i]? = some f → f.id = i) ∧
    (∀ (i : Nat) (s : ScopeSt), st.scopes[i]? = some s → s.id = i) ∧
    (∀ f ∈ (st.toGraph []).flows, ∀ n ∈ f.names, n.scope = f.scope) :=
  let b := extract_basic lines mods t st h
  ⟨b.flowIds, b.scopeIds, b.nameScope⟩

/-- LAYOUT INDEPENDENCE at extractor level, layer 1 (the interpreter), for an arbitrary per-node predicate `Q`:
    if `compile` commutes with re-positioning on `Q`-trees (`CompileComm`; proved for `Q := layoutQ φ ψ S` as
    `compileComm_layoutQ`, see `extract_layout`) and `ψ` preserves the order of the stored locations `S`, the two
    runs of the extractor stay in correspondence (`Sim`): the second graph is the first with locations mapped by `ψ`,
    same shape, `.flow` attributes at `φ`-mapped positions with the same flows, `orderIsoAt` for every query position
    of `S` with `ψ pos = φ pos`.  `declared_at` (a text search over different texts) is not related. -/
theorem extract_layout_partial (φ ψ : Pos → Pos) (S : List Pos) (Q : Ast → Bool)
    (hop : OrderPreserving ψ S) (hQ : CompileComm φ ψ S Q)
    (lines lines' : List Text.Str) (mods : List (String × List String)) (t : Ast) (ht : t.all Q = true)
    (st : St) (builtins : List String) (h : extract lines mods t = .ok st) :
    ∃ st', extract lines' mods (t.mapPos φ) = .ok st' ∧
      st'.toGraph builtins = (st.toGraph builtins).mapLoc ψ ∧
      sameShape (st.toGraph builtins) (st'.toGraph builtins) = true ∧
      st'.flowAttrs = st.flowAttrs.map (fun x => (x.1.map φ, x.2.1, x.2.2)) ∧
      ∀ pos id f, (some pos, id, f) ∈ st.flowAttrs → pos ∈ S → ψ pos = φ pos →
        orderIsoAt (st.toGraph builtins) (st'.toGraph builtins) f pos (φ pos) = true := by
  obtain ⟨st', e, hs, hl⟩ := extract_sim hop lines lines' mods hQ t ht st h
  refine ⟨st', e, hs.toGraph builtins, hs.sameShape builtins, hs.flowAttrs, ?_⟩
  intro pos id f _ hpos hψ
  rw [hs.toGraph builtins, ← hψ]
  apply orderIsoAt_mapLoc
  apply OrderPreserving.sub hop
  intro p hp
  rcases List.mem_cons.mp hp with rfl | hp
  · exact hpos
  · exact locsOf_in hl builtins f p hp

/-- LAYOUT INDEPENDENCE at extractor level, for EVERY tree and every visit method (layer 2 proved: `compile_comm`,
    one commutation lemma per visit method).  Hypotheses, all decidable: every node of the tree satisfies `layoutQ`
    (`ψ = φ` at its position, `ψ` commutes with the "+ (0, 1)" of `get_expr_end` at the end of the expression it roots
    and with the decorator-line / statement-column mix of `get_first_body_node_loc`; the locations its visit method
    stores are in `S`), and `ψ` preserves the order of `S`.  No well-shapedness is needed: if the first extraction
    succeeds so does the second.  A query position `pos` that makes the same comparisons with the locations of `S` on
    both layouts (`Pos.lt pos' (ψ l) = Pos.lt pos l`, with `pos'` its counterpart) satisfies `queryIsoAt` in every flow. -/
theorem extract_layout (φ ψ : Pos → Pos) (S : List Pos) (hop : OrderPreserving ψ S)
    (lines lines' : List Text.Str) (mods : List (String × List String)) (t : Ast)
    (ht : t.all (layoutQ φ ψ S) = true) (st : St) (builtins : List String) (h : extract lines mods t = .ok st) :
    ∃ st', extract lines' mods (t.mapPos φ) = .ok st' ∧
      st'.toGraph builtins = (st.toGraph builtins).mapLoc ψ ∧
      sameShape (st.toGraph builtins) (st'.toGraph builtins) = true ∧
      st'.flowAttrs = st.flowAttrs.map (fun x => (x.1.map φ, x.2.1, x.2.2)) ∧
      ∀ pos pos' f, (∀ l ∈ S, Pos.lt pos' (ψ l) = Pos.lt pos l) →
        queryIsoAt (st.toGraph builtins) (st'.toGraph builtins) f pos pos' = true := by
  obtain ⟨st', e, hs, hl⟩ := extract_sim hop lines lines' mods (compileComm_layoutQ φ ψ S) t ht st h
  exact ⟨st', e, hs.toGraph builtins, hs.sameShape builtins, hs.flowAttrs,
    fun _ _ f hpos => hs.queryIsoAt hl builtins f hpos⟩

/-- the same for a REAL pair of layouts, two serialised trees: `layoutPairOK t1 t2` (decidable; the driver op
    `layoutPair` evaluates it) says that the trees are equal up to positions, that the positions zipped in traversal
    order define a map `φ` (`pairPhi`), and that with `ψ` (`pairPsi`: `φ` on node positions, "+ (0, 1)" of `φ` one
    column to the left, the decorated-body mix) and `S` = the locations the visit methods store (`storedLocs`) the
    hypotheses of `extract_layout` hold and every `Name` position makes the same comparisons with `S` on both sides.
    Then the second extraction succeeds, the graphs have the same shape, the `.flow` attributes correspond, and
    every `Name` position satisfies `queryIsoAt` in every flow - the hypotheses of `C13_layouts`. -/
theorem extract_layout_pair (t1 t2 : Ast) (hok : layoutPairOK t1 t2 = true)
    (lines1 lines2 : List Text.Str) (mods : List (String × List String)) (s1 : St) (builtins : List String)
    (h : extract lines1 mods t1 = .ok s1) :
    ∃ s2, extract lines2 mods t2 = .ok s2 ∧
      sameShape (s1.toGraph builtins) (s2.toGraph builtins) = true ∧
      s2.flowAttrs = s1.flowAttrs.map (fun x => (x.1.map (pairPhi t1 t2), x.2.1, x.2.2)) ∧
      ∀ pos ∈ namePos t1, ∀ f,
        queryIsoAt (s1.toGraph builtins) (s2.toGraph builtins) f pos (pairPhi t1 t2 pos) = true := by
  obtain ⟨hmap, hq, hop, hqs⟩ := layoutPairOK_spec hok
  obtain ⟨s2, e, _, hsame, hattrs, hquery⟩ :=
    extract_layout (pairPhi t1 t2) (pairPsi t1 t2) (pairS t1) hop lines1 lines2 mods t1 hq s1 builtins h
  rw [hmap] at e
  refine ⟨s2, e, hsame, hattrs, ?_⟩
  intro pos hpos f
  rw [← (hqs pos hpos).1]
  exact hquery pos _ f (hqs pos hpos).2

/-- C13 AT EXTRACTOR LEVEL: for a layout pair accepted by `layoutPairOK`, the table `names_at` computes at a `Name`
    node is the same on both layouts (bindings identified by identity), for every flow and every state of the loop
    resolution - `extract_layout_pair` composed with `C13_layouts`.  `declared_at` and the source lines, which differ
    between layouts, are not part of the claim. -/
theorem extract_C13 (t1 t2 : Ast) (hok : layoutPairOK t1 t2 = true)
    (lines1 lines2 : List Text.Str) (mods : List (String × List String)) (s1 s2 : St) (builtins : List String)
    (h1 : extract lines1 mods t1 = .ok s1) (h2 : extract lines2 mods t2 = .ok s2) :
    ∀ pos ∈ namePos t1, ∀ (n : Nat) (R : List Nat) (f : Nat),
      namesAt (s2.toGraph builtins) n R f (pairPhi t1 t2 pos) = namesAt (s1.toGraph builtins) n R f pos := by
  obtain ⟨s2', e, hsame, _, hq⟩ := extract_layout_pair t1 t2 hok lines1 lines2 mods s1 builtins h1
  rw [h2] at e
  injection e with e
  subst e
  intro pos hpos n R f
  exact SuppModel.Props.C13.C13_layouts _ _ n R f pos _ hsame (hq pos hpos f)

/-- EXTRACTION NEVER LOOKS AT THE ID OF A READ: on a tree every node of which satisfies the decidable `renQ p s` (the
    reading half of its visit method is the same on the renamed tree, up to renaming the nodes it visits - the binding
    loops read the ids of their targets only, which have `ctx = Store()`), extracting the tree with the `Load` name
    at `p` renamed to `s` gives exactly the state of the original extraction, the `.flow` attribute of that name being
    recorded under the new id - and fails with the same error when the original fails.  (The interpreter half is
    proved for all programs: `stepRel_mapKR`, `exec_lift`; `renQ` is evaluated per node - `extract_rename_proved` has a
    proved side condition in its place.) -/
theorem extract_rename_invariant (p : Pos) (s : String) (lines : List Text.Str) (mods : List (String × List String))
    (t : Ast) (ht : t.all (renQ p s) = true) :
    extract lines mods (t.rename p s) = (extract lines mods t).map (St.mapAttrs (attrRen p s)) :=
  (extract_mapKR (rename_laws p s) (compRel_renQ p s) lines mods t ht).eq_map

/-- C12, CURSOR-MARK TRANSPARENCY AT ANALYSIS LEVEL.  `markTree t cursor p newId k` is the tree of the marked source:
    the `Load` name at `p` renamed (SOURCE_MARK inserted: `newId`), every position on the cursor's line at a column ≥
    the cursor's shifted right by `k` = |SOURCE_MARK|.  Under `markOK` (decidable; the driver op `markPair` evaluates it
    on the REAL marked tree, which it first checks to BE `markTree` of the real unmarked tree) the extraction of the
    marked tree succeeds whenever that of the unmarked tree does, the two graphs have the same shape, the marked name
    gets the flow the unmarked name got, and in EVERY flow the table `names_at` computes at the ORIGINAL cursor
    position - what `assist` asks: `name.flow.names_at(position)` - is the same: inserting the cursor does not change
    what the analysis makes visible at the cursor. -/
theorem C12_mark_transparent_eval (t : Ast) (cursor p : Pos) (newId : String) (k : Nat)
    (hok : markOK t cursor p newId k = true)
    (lines lines' : List Text.Str) (mods : List (String × List String)) (s : St) (builtins : List String)
    (h : extract lines mods t = .ok s) :
    ∃ s', extract lines' mods (markTree t cursor p newId k) = .ok s' ∧
      sameShape (s.toGraph builtins) (s'.toGraph builtins) = true ∧
      (∀ id f, (some p, id, f) ∈ s.flowAttrs → (some p, newId, f) ∈ s'.flowAttrs) ∧
      ∀ (n : Nat) (R : List Nat) (f : Nat),
        namesAt (s'.toGraph builtins) n R f cursor = namesAt (s.toGraph builtins) n R f cursor := by
  simp only [markOK, Bool.and_eq_true, List.all_eq_true, beq_iff_eq, decide_eq_true_eq] at hok
  have hr : extract lines mods (t.rename p newId) = .ok (s.mapAttrs (attrRen p newId)) := by
    rw [extract_rename_invariant p newId lines mods t hok.1.1.1, h]; rfl
  obtain ⟨s', e, hsame, -, hattr, hnames⟩ := extract_pair_at hok.1.1.2 lines lines' mods builtins hr
  exact ⟨s', e, hsame, fun id f hm => hattr _ _ _ hok.2 (List.mem_map.mpr ⟨_, hm, by simp [attrRen]⟩), hnames _ hok.1.2⟩

/-- EXTRACTION NEVER LOOKS AT AN ATTRIBUTE NAME: on a tree every node of which satisfies the decidable `renAQ p z s`,
    extracting the tree with the `attr` of the Attribute node at `p` (of size `z`) replaced by `s` gives exactly the same
    state, or the same error.  (No action of the model carries an attribute name: `add_attr_assign` stores the
    Attribute NODE - the model its position -, so the only payload that differs in the real `_attr_assigns` is the
    `attr` string inside a stored node when the marked attribute is itself an assignment target.) -/
theorem extract_renameAttr_invariant (p : Pos) (z : Nat) (s : String) (lines : List Text.Str)
    (mods : List (String × List String)) (t : Ast) (ht : t.all (renAQ p z s) = true) :
    extract lines mods (t.renameAttr p z s) = extract lines mods t :=
  (extract_mapKR (renameAttr_laws p z s) (compRel_renAQ p z s) lines mods t ht).eq_map.trans (map_mapAttrs_id _)

/-- C12, CURSOR-MARK TRANSPARENCY, ATTRIBUTE BRANCH.  `markAttrTree t cursor p z newAttr k` is the tree of the source
    marked inside (or right before) an attribute name: the `attr` of the Attribute node at `p` of size `z` replaced
    (SOURCE_MARK spliced in: `newAttr`), every position on the cursor's line at a column ≥ the cursor's shifted right
    by `k`.  Under `markAttrOK` (decidable; driver op `markAttrPair`, which first checks that the REAL marked tree IS
    `markAttrTree` of the real unmarked tree) the extraction of the marked tree succeeds whenever that of the unmarked
    tree does, the graphs have the same shape, `_attr_assigns` are the same at the mapped positions, every `Name`
    inside `attr.value` has the `.flow` it had, and in every flow the table `names_at` computes at the position of such
    a name - what `evaluate(attr.value)` asks - is the same. -/
theorem C12_mark_transparent_attr_eval (t : Ast) (cursor p : Pos) (z : Nat) (newAttr : String) (k : Nat)
    (hok : markAttrOK t cursor p z newAttr k = true)
    (lines lines' : List Text.Str) (mods : List (String × List String)) (s : St) (builtins : List String)
    (h : extract lines mods t = .ok s) :
    ∃ s', extract lines' mods (markAttrTree t cursor p z newAttr k) = .ok s' ∧
      sameShape (s.toGraph builtins) (s'.toGraph builtins) = true ∧
      s'.attrAssigns = s.attrAssigns.map (fun x => (x.1, x.2.map
        (pairPhi (t.renameAttr p z newAttr) (markAttrTree t cursor p z newAttr k)))) ∧
      (∀ q ∈ valueNamePos t p z, ∀ id f, (some q, id, f) ∈ s.flowAttrs → (some q, id, f) ∈ s'.flowAttrs) ∧
      ∀ q ∈ valueNamePos t p z, ∀ (n : Nat) (R : List Nat) (f : Nat),
        namesAt (s'.toGraph builtins) n R f q = namesAt (s.toGraph builtins) n R f q := by
  simp only [markAttrOK, Bool.and_eq_true, List.all_eq_true, beq_iff_eq, decide_eq_true_eq] at hok
  obtain ⟨s', e, hsame, hassign, hattr, hnames⟩ :=
    extract_pair_at hok.1.2 lines lines' mods builtins ((extract_renameAttr_invariant p z newAttr lines mods t hok.1.1).trans h)
  exact ⟨s', e, hsame, hassign, fun q hq id f => hattr q id f (hok.2 q hq).1, fun q hq => hnames q (hok.2 q hq).2⟩

/-- NO VISIT METHOD DEPENDS ON THE ID OF A READ (proved per visit method: `compile_trans`, `compRel_tgtQ`).  Side
    condition `tgtQ p` at every node (decidable, cheap): in the actions of the node's visit method no name bound by
    assignment (target, loop / with / comprehension variable, walrus, handler name) is declared at `p`, no `.flow` attribute
    of a target is recorded at `p`, and a `Name` node at `p` has a string id - "the node at `p` is a read, not a binding
    occurrence".  The binding loops (`get_indexes_for_target` + `name.id`, visit_AnnAssign, visit_NamedExpr) are the only
    places where a visit method reads a `Name.id`; `visit_Name` only stores the node.  Then whenever extraction of the
    tree succeeds, extraction of the tree with the read at `p` renamed succeeds with the same state, the `.flow`
    attribute of that read recorded under the new id. -/
theorem extract_rename_proved (p : Pos) (s : String) (lines : List Text.Str) (mods : List (String × List String))
    (t : Ast) (ht : t.all (tgtQ p) = true) (st : St) (h : extract lines mods t = .ok st) :
    extract lines mods (t.rename p s) = .ok (st.mapAttrs (attrRen p s)) :=
  (extract_mapKR (rename_laws p s) (compRel_tgtQ p s) lines mods t ht).ok_eq h

/-- NO VISIT METHOD READS `Attribute.attr`: no side condition at all (`compRel_renameAttr`) -/
theorem extract_renameAttr_proved (p : Pos) (z : Nat) (s : String) (lines : List Text.Str)
    (mods : List (String × List String)) (t : Ast) (st : St) (h : extract lines mods t = .ok st) :
    extract lines mods (t.renameAttr p z s) = .ok st :=
  mapAttrs_id st ▸ (extract_mapKR (renameAttr_laws p z s) (compRel_renameAttr p z s) lines mods t (all_const_true t)).ok_eq h

/-- C12, CURSOR-MARK TRANSPARENCY AT ANALYSIS LEVEL, name branch, with the rename half PROVED: the hypothesis `markOK2`
    (decidable; driver op `markPair`) does not contain `renQ`: it asks that the renamed node is a read (`tgtQ`), that
    the renamed and the marked tree are a layout pair (`layoutPairOK`), that the cursor makes the same comparisons with
    every stored location before and after the shift, and that the renamed name does not move. -/
theorem C12_mark_transparent (t : Ast) (cursor p : Pos) (newId : String) (k : Nat)
    (hok : markOK2 t cursor p newId k = true)
    (lines lines' : List Text.Str) (mods : List (String × List String)) (s : St) (builtins : List String)
    (h : extract lines mods t = .ok s) :
    ∃ s', extract lines' mods (markTree t cursor p newId k) = .ok s' ∧
      sameShape (s.toGraph builtins) (s'.toGraph builtins) = true ∧
      (∀ id f, (some p, id, f) ∈ s.flowAttrs → (some p, newId, f) ∈ s'.flowAttrs) ∧
      ∀ (n : Nat) (R : List Nat) (f : Nat),
        namesAt (s'.toGraph builtins) n R f cursor = namesAt (s.toGraph builtins) n R f cursor := by
  simp only [markOK2, Bool.and_eq_true, List.all_eq_true, beq_iff_eq, decide_eq_true_eq] at hok
  obtain ⟨s', e, hsame, -, hattr, hnames⟩ :=
    extract_pair_at hok.1.1.2 lines lines' mods builtins (extract_rename_proved p newId lines mods t hok.1.1.1 s h)
  exact ⟨s', e, hsame, fun id f hm => hattr _ _ _ hok.2 (List.mem_map.mpr ⟨_, hm, by simp [attrRen]⟩), hnames _ hok.1.2⟩

/-- C12, attribute branch, with the rename half PROVED and NO condition on it: `markAttrOK2` = layout pair + the query
    positions (the names inside `attr.value`) do not move and make the same comparisons with every stored location. -/
theorem C12_mark_transparent_attr (t : Ast) (cursor p : Pos) (z : Nat) (newAttr : String) (k : Nat)
    (hok : markAttrOK2 t cursor p z newAttr k = true)
    (lines lines' : List Text.Str) (mods : List (String × List String)) (s : St) (builtins : List String)
    (h : extract lines mods t = .ok s) :
    ∃ s', extract lines' mods (markAttrTree t cursor p z newAttr k) = .ok s' ∧
      sameShape (s.toGraph builtins) (s'.toGraph builtins) = true ∧
      s'.attrAssigns = s.attrAssigns.map (fun x => (x.1, x.2.map
        (pairPhi (t.renameAttr p z newAttr) (markAttrTree t cursor p z newAttr k)))) ∧
      (∀ q ∈ valueNamePos t p z, ∀ id f, (some q, id, f) ∈ s.flowAttrs → (some q, id, f) ∈ s'.flowAttrs) ∧
      ∀ q ∈ valueNamePos t p z, ∀ (n : Nat) (R : List Nat) (f : Nat),
        namesAt (s'.toGraph builtins) n R f q = namesAt (s.toGraph builtins) n R f q := by
  simp only [markAttrOK2, Bool.and_eq_true, List.all_eq_true, beq_iff_eq, decide_eq_true_eq] at hok
  obtain ⟨s', e, hsame, hassign, hattr, hnames⟩ :=
    extract_pair_at hok.1 lines lines' mods builtins (extract_renameAttr_proved p z newAttr lines mods t s h)
  exact ⟨s', e, hsame, hassign, fun q hq id f => hattr q id f (hok.2 q hq).1, fun q hq => hnames q (hok.2 q hq).2⟩

/-! ### non-vacuity: a small concrete tree -/

private def nm (id ctx : String) (l c : Nat) : Ast :=
  .node "Name" (some (l, c)) ["id", "ctx"] [.str id, .str ctx]

/-- `x = y; w = y` / `if x:` / `    z` -/
def exTree : Ast :=
  .node "Module" none ["body", "type_ignores"] [.list [
    .node "Assign" (some (1, 0)) ["targets", "value", "type_comment"] [.list [nm "x" "Store" 1 0], nm "y" "Load" 1 4, .none],
    .node "If" (some (2, 0)) ["test", "body", "orelse"]
      [nm "x" "Load" 2 3, .list [.node "Expr" (some (3, 4)) ["value"] [nm "z" "Load" 3 4]], .list []],
    .node "Assign" (some (1, 7)) ["targets", "value", "type_comment"] [.list [nm "w" "Store" 1 7], nm "y" "Load" 1 11, .none]
    ], .list []]

def exLines : List Text.Str := ["x = y; w = y".toList, "if x:".toList, "    z".toList]

/-- `x = y` / `w = f(x)`: a tree of the fragment; the other layout doubles every line (plus one) and shifts every
    column by three (`C13.exPhi`) -/
def exFrag : Ast :=
  .node "Module" none ["body", "type_ignores"] [.list [
    .node "Assign" (some (1, 0)) ["targets", "value", "type_comment"] [.list [nm "x" "Store" 1 0], nm "y" "Load" 1 4, .none],
    .node "Assign" (some (2, 0)) ["targets", "value", "type_comment"]
      [.list [nm "w" "Store" 2 0],
       .node "Call" (some (2, 4)) ["func", "args", "keywords"] [nm "f" "Load" 2 4, .list [nm "x" "Load" 2 6], .list []],
       .none]
    ], .list []]

/-- a real-shaped layout pair: the tree below (assignments, an `if`, an expression statement) and the same program with
    every line doubled plus one and every column shifted by three is accepted by `layoutPairOK`, and its `Name`
    positions are the six one expects -/
example : layoutPairOK exTree (exTree.mapPos SuppModel.Props.C13.exPhi) = true ∧
    namePos exTree = [(1, 0), (1, 4), (2, 3), (3, 4), (1, 7), (1, 11)] ∧
    storedLocs exTree = [(1, 5), (1, 12)] := by
  decide +kernel

/-- the cursor at the end of the first `y` of `x = y; w = y` (line 1, column 5): the hypotheses of
    `C12_mark_transparent` hold, the marked tree has the second statement 13 columns to the right, and the binding
    of `x` keeps its location (1, 5) = one column after the START of the marked name -/
example : markOK exTree (1, 5) (1, 4) "y__supp_mark__" 13 = true ∧ markOK2 exTree (1, 5) (1, 4) "y__supp_mark__" 13 = true ∧
    namePos (markTree exTree (1, 5) (1, 4) "y__supp_mark__" 13) = [(1, 0), (1, 4), (2, 3), (3, 4), (1, 20), (1, 24)] ∧
    storedLocs (markTree exTree (1, 5) (1, 4) "y__supp_mark__" 13) = [(1, 5), (1, 25)] := by
  decide +kernel

/-- `x = y` / `w = x.real.imag + y`: the cursor inside `real` (line 2, column 8: `x.re|al`) -/
def exAttrTree : Ast :=
  .node "Module" none ["body", "type_ignores"] [.list [
    .node "Assign" (some (1, 0)) ["targets", "value", "type_comment"] [.list [nm "x" "Store" 1 0], nm "y" "Load" 1 4, .none],
    .node "Assign" (some (2, 0)) ["targets", "value", "type_comment"]
      [.list [nm "w" "Store" 2 0],
       .node "BinOp" (some (2, 4)) ["left", "op", "right"]
         [.node "Attribute" (some (2, 4)) ["value", "attr", "ctx"]
            [.node "Attribute" (some (2, 4)) ["value", "attr", "ctx"] [nm "x" "Load" 2 4, .str "real", .str "Load"],
             .str "imag", .str "Load"],
          .node "Add" none [] [], nm "y" "Load" 2 18],
       .none]
    ], .list []]

/-- the inner of the two Attribute nodes at (2, 4) has size 6; the hypotheses of `C12_mark_transparent_attr` hold, the
    query positions are the one `Name` inside its value, and the `y` right of the cursor moves by 13 -/
example : markAttrOK exAttrTree (2, 8) (2, 4) 6 "re__supp_mark__al" 13 = true ∧
    markAttrOK2 exAttrTree (2, 8) (2, 4) 6 "re__supp_mark__al" 13 = true ∧
    valueNamePos exAttrTree (2, 4) 6 = [(2, 4)] ∧
    namePos (markAttrTree exAttrTree (2, 8) (2, 4) 6 "re__supp_mark__al" 13) = [(1, 0), (1, 4), (2, 0), (2, 4), (2, 31)] := by
  decide +kernel

/-- the hypotheses of the theorems hold of it, it has reads, and the graph has a region with two bindings -/
example : wellShaped exTree = true ∧ noTypeParams exTree = true ∧
    loads exTree = [(some (1, 4), "y"), (some (2, 3), "x"), (some (3, 4), "z"), (some (1, 11), "y")] := by
  decide +kernel

example : ∃ st, extract exLines [] exTree = .ok st := extract_total exLines [] exTree (by decide +kernel)

example : (match extract exLines [] exTree with
    | .ok st => st.flows.map (fun f => (f.id, f.names.map (fun n => (n.name, n.loc)), f.parents))
    | .error _ => []) =
    [(0, [("x", (1, 5))], []), (1, [], [Parent.flow 0]), (2, [], [Parent.flow 0]),
     (3, [("w", (1, 12))], [Parent.flow 1, Parent.flow 2])] := by
  decide +kernel

/-- its graph is well-formed -/
example : (match extract exLines [] exTree with | .ok st => (st.toGraph []).wf | .error _ => false) = true := by
  decide +kernel

/-- and the reads are given the flows the real extractor gives them (`y`: top, `x`: top, `z`: the `if` body, second `y`: the join) -/
example : (match extract exLines [] exTree with
    | .ok st => (loads exTree).map (fun k => st.flowAttrs.find? (fun a => a.1 == k.1 && a.2.1 == k.2) |>.map (·.2.2))
    | .error _ => []) = [some 0, some 0, some 1, some 3] := by
  decide +kernel

end SuppModel.Props.Extract
