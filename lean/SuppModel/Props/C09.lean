/-
  C09 — a long-lived project answers exactly like a fresh one (cache transparency).
  Property theorems ONLY (the invariant and its preservation live in SuppModel/Proj/History.lean).
  Every statement is about the executable model of SuppModel/Proj/Model.lean (`run`, `request`, `fresh`),
  the one the driver `drv_proj` runs against supp's `Project` on the same histories.

  `Transparent v` is the full-strength statement for the behaviour `v` of `check_changes`/`norm_package`:
  histories with absolute AND relative imports, any length, any initial disk.
  * For the code as it is (`.current`, /repo at a1df565) it is PROVED: `C09`.
  * "each edit changes the file's modification time" is `freshMtimes`: a write or touch gives the file an
    mtime that file has not had before in the history — older or newer, no clock is assumed.
  * Earlier behaviours are refuted in SuppModel/Witness/C09.lean: `C09_pinned_false`, `C09_coarseOnly_false`
    (repaired by b5a1370, 07fdbb8), `C09_norm_false` (`.noRenorm`: `_norm_cache` never dropped; repaired by
    a1df565), and the seeded change `C09_lt_false` (`changed` written with `<`).
-/
import SuppModel.Proj.History

namespace SuppModel.Props.C09
open SuppModel.Proj

/-- the property at full strength: for every history of any length (writes that create or rewrite modules —
    absolute or relative imports —, touches, requests; every edit gives its file a fresh mtime) from an empty
    project on any initial disk, every request's answer equals the answer of a brand-new project on the disk
    of that moment -/
def C09_stmt : Prop := Transparent .current

/-- … holds of the code as it is.  `fuel` is Python's recursion limit: the two answers are compared when
    neither computation hit it (on acyclic import graphs with `fuel` above the chain length none does;
    the driver reports both flags for every request of every run). -/
theorem C09 : C09_stmt :=
  fun _ D0 ops hfr => run_transparent ops (inv_init D0) hfr

/-- the same, spelled out -/
theorem C09_transparent (fuel : Nat) (D0 : Disk) (ops : List Op)
    (hfr : freshMtimes (seenOf D0) ops = true) :
    ∀ r, r ∈ run .current fuel (World.init .current D0) ops →
      r.2.2 ≠ .recursion → fresh fuel r.1 r.2.1 ≠ .recursion → r.2.2 = fresh fuel r.1 r.2.1 :=
  C09 fuel D0 ops hfr

/-- the absolute-imports instance (the statement the earlier variants are refuted against) -/
theorem C09_partial : TransparentAbs .current :=
  fun fuel D0 _ ops hfr _ => C09 fuel D0 ops hfr

/-- repeating a request without an intervening write gives the same answer, and afterwards every request
    is answered as it would have been after the first one -/
theorem C09_idempotent (fuel : Nat) (D0 : Disk) (ops : List Op)
    (hfr : freshMtimes (seenOf D0) ops = true) (q : Query) :
    let w := exec .current fuel (World.init .current D0) ops
    let r1 := request .current fuel w.disk w.st q
    let r2 := request .current fuel w.disk r1.2 q
    (r1.1 ≠ .recursion → r2.1 ≠ .recursion → fresh fuel w.disk q ≠ .recursion → r2.1 = r1.1) ∧
    ∀ q', (request .current fuel w.disk r1.2 q').1 ≠ .recursion →
      (request .current fuel w.disk r2.2 q').1 ≠ .recursion → fresh fuel w.disk q' ≠ .recursion →
      (request .current fuel w.disk r2.2 q').1 = (request .current fuel w.disk r1.2 q').1 := by
  intro w r1 r2
  obtain ⟨_, ⟨R, hg, hs, _⟩, _⟩ := inv_exec (fuel := fuel) ops (inv_init D0) hfr
  have s1 := request_den fuel q hg hs
  have s2 := request_den fuel q s1.1 (sameByMtime_refl w.disk)
  -- both answers are what the disk denotes, whatever a fresh project would say
  exact ⟨fun h1 h2 _ => (s2.2 h2).unique (s1.2 h1), fun q' h1 h2 _ =>
    ((request_den fuel q' s2.1 (sameByMtime_refl w.disk)).2 h2).unique
      ((request_den fuel q' s1.1 (sameByMtime_refl w.disk)).2 h1)⟩

/-- the invariant: after any such history the project's caches (module cache, `_ref` memos, `_missing`,
    `_norm_cache`) are correct for every disk that has the same files wherever the project has looked and the
    same package path for every directory in `_norm_cache` (so an edit elsewhere cannot matter, and an edit
    there is seen by `check_changes`) -/
theorem C09_invariant (fuel : Nat) (D0 : Disk) (ops : List Op)
    (hfr : freshMtimes (seenOf D0) ops = true) :
    ∃ seen, Inv (exec .current fuel (World.init .current D0) ops) seen :=
  inv_exec ops (inv_init D0) hfr

/-! non-vacuity: a project with a star import through an unchanged importer (a = [1]: `from b import *`,
    `from b import K as M`; b = [2]: `from c import K`, own `L`; c = [3]: own `K`), an edit of the far end
    `c` (given an older mtime) between two requests through `a`, then the creation of a module that `a`'s rewritten source had
    already failed to import; the hypotheses hold, no answer is `recursion`, and the answers change with
    the disk -/
def exDisk : Disk :=
  [([1], ⟨50, [.star [2], .frm [2] 10 12]⟩), ([2], ⟨50, [.frm [3] 10 10, .bind 11 3]⟩), ([3], ⟨50, [.bind 10 7]⟩)]

def exOps : List Op :=
  [.request (.attr [1] none 10), .request (.names [1] none),
   .write [3] 30 [.bind 10 9], .request (.attr [1] none 10),       -- an OLDER mtime than the cached one
   .write [1] 70 [.star [2], .star [4]], .request (.lint [1] [10, 13]),
   .write [4] 10 [.bind 13 1], .request (.lint [1] [10, 13]), .request (.loc [1] none 13)]

example : freshMtimes (seenOf exDisk) exOps = true := by decide

-- a history with relative imports in which `zq_p8/__init__.py` appears after the relative name was resolved
-- (the one on which the code before a1df565 was stale): fresh mtimes, no `recursion`, answers follow the disk
example :
    let D : Disk := [([8, 9], ⟨1, []⟩), ([8, 9, 2], ⟨2, [.bind 10 1]⟩), ([8, 9, 1], ⟨3, [.rfrm 0 [2] 10 10]⟩)]
    let ops : List Op := [.request (.attr [8, 9] (some 1) 10), .write [8] 4 [], .request (.attr [8, 9] (some 1) 10)]
    freshMtimes (seenOf D) ops = true ∧
    (run .current 10 (World.init .current D) ops).map (·.2.2) = [.nothing, .payload 1] := by decide

example : (run .current 10 (World.init .current exDisk) exOps).map (·.2.2) =
    [.payload 7, .names [10, 11, 12], .payload 9, .undefined [13], .undefined [], .locs [(some [1], 2), (some [4], 1)]] ∧
    ((run .current 10 (World.init .current exDisk) exOps).all
      (fun r => r.2.2.defined && (fresh 10 r.1 r.2.1).defined)) = true := by decide

-- `C09_idempotent`: its three side conditions hold on that history for a request through the importer
example :
    let w := exec .current 10 (World.init .current exDisk) exOps
    let r1 := request .current 10 w.disk w.st (.attr [1] none 10)
    let r2 := request .current 10 w.disk r1.2 (.attr [1] none 10)
    r1.1 = .payload 9 ∧ r2.1 = .payload 9 ∧ fresh 10 w.disk (.attr [1] none 10) = .payload 9 := by decide

end SuppModel.Props.C09
