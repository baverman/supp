/-
  C16 — exactly one server under every interleaving; close and disconnect end it.
  Property theorems ONLY (lemmas live in SuppModel/Startup/).  Every statement is about
  the executable line-level model `step`/`exec` of SuppModel/Startup/Model.lean (any number of threads;
  the schedule — a list of thread ids — is universally quantified), which the harness ties to
  supp/remote.py by forcing the model's schedules on the real class.
-/
import SuppModel.Startup.Lemmas

namespace SuppModel.Props.C16
open SuppModel.Startup

/-- Safety, for every workload of prepare()/call operations on any number of threads and EVERY schedule:
    at most one server is launched; no thread has seen an exception; the lines inside a
    `with self.prepare_lock:` block are occupied by at most one thread, and it is the recorded owner. -/
theorem C16_inv (w : List (List Op)) (hw : noClose w = true) (sched : List Tid) :
    let s := exec .current false sched (init w)
    s.popen ≤ 1 ∧
    (∀ (i : Tid) (th : Thr) (e : Exc), s.threads[i]? = some th → th.out ≠ .raised e) ∧
    (∀ (i j : Tid) (thi thj : Thr), s.threads[i]? = some thi → s.threads[j]? = some thj →
        thi.pc.locked = true → thj.pc.locked = true → s.lock = some i ∧ i = j) ∧
    (∀ o, s.lock = some o → ∃ th, s.threads[o]? = some th ∧ th.pc.locked = true) := by
  have h := inv_reach w hw sched
  exact ⟨inv_popen h, inv_no_raise h, inv_mutex h, inv_lock_owner h⟩

/-! non-vacuity: three threads (prepare; call; prepare then call), and a schedule that interleaves them -/
example : noClose [[.prepare], [.call], [.prepare, .call]] = true := by decide
example : (exec .current false [0,1,2,0,1,2,0,1,2,0,0,0,3,3,3,1,1,1,1,1,1,1,1,1,1,2,2,2,2,2,2,2,2,2,2,2,2]
    (init [[.prepare], [.call], [.prepare, .call]])).popen = 1 := by decide

/-- Termination, for every variant of the source, with or without launch failure, any workload and
    any number of threads: every line executed strictly decreases the rank `St.rank` (a natural number),
    so every schedule stops; no strict schedule is longer than the rank of the initial state. -/
theorem C16_terminates (v : Variant) (lf : Bool) :
    (∀ (s s' : St) (t : Tid), step v lf s t = some s' → s'.rank < s.rank) ∧
    (∀ (w : List (List Op)) (sched : List Tid) (s' : St),
        execStrict v lf sched (init w) = some s' → sched.length ≤ (init w).rank) := by
  refine ⟨fun s s' t h => rank_step h, fun w sched s' h => ?_⟩
  have := execStrict_bound h
  omega

example : (init [[.prepare], [.call], [.prepare, .call]]).rank = 48 := by decide

/-- Sequential composition with close().  Take ANY reachable state of a prepare()/call workload in which
    every thread has finished and a connection exists, and let a new thread run close() and then a call.
    After the five lines of close(): `conn` is gone, exactly one close message was sent, the server has
    left (`live = false`), nobody holds the lock.  After the fourteen lines of the call: exactly one new
    server (two launches in total), it is live, connected, and the call was answered.  No thread that had
    finished ever runs again under any schedule, so the new thread's lines are the only ones executed.
    (close() concurrent with a call of another thread is outside the property; the harness explores it.) -/
theorem C16_close (w : List (List Op)) (hw : noClose w = true) (sched : List Tid) :
    let s := exec .current false sched (init w)
    s.final = true → s.conn.isSome = true →
    runN .current false s.threads.length 5 (s.spawn [.close, .call]) =
      some ⟨none, none, none, false, 1, s.closeMsgs + 1, s.threads ++ [⟨.cTry, [], .running, none, none, 0⟩]⟩ ∧
    runN .current false s.threads.length 19 (s.spawn [.close, .call]) =
      some ⟨none, none, some ⟨false, 0⟩, true, 2, s.closeMsgs + 1,
            s.threads ++ [⟨.done, [], .returned, none, none, 1⟩]⟩ ∧
    (∀ sched', othersDone s.threads.length (exec .current false sched' (s.spawn [.close, .call]))) := by
  intro s hf hc
  have h := inv_reach w hw sched
  obtain ⟨hlock, hpt, hod⟩ := inv_final_quiet h hf
  cases hcc : s.conn with
  | none => simp [hcc] at hc
  | some c =>
    obtain ⟨hcl, hl, hp⟩ := inv_conn h c hcc
    have := close_then_call s c hcc hcl hl hlock hpt
    rw [hp] at this
    exact ⟨this.1, this.2, fun sched' => othersDone_exec sched' (othersDone_spawn hod _)⟩

/-! non-vacuity: a two-thread workload run to its end has a connection -/
example : let s := exec .current false ([0,0,0,0,0,0] ++ List.replicate 7 1 ++ [2,2,2] ++ List.replicate 7 1) (init [[.prepare], [.call]])
    s.final = true ∧ s.conn.isSome = true := by decide

/-- Progress: in every reachable state of a prepare()/call workload (any number of threads, every
    schedule) in which some thread is still running, some thread can execute a line.  With
    `C16_terminates` this means every schedule runs every thread to its end. -/
theorem C16_no_deadlock (w : List (List Op)) (hw : noClose w = true) (sched : List Tid) :
    let s := exec .current false sched (init w)
    s.final = false → s.stuck .current false = false := by
  exact no_deadlock (inv_reach w hw sched)

/-- Exactly one server: in every reachable state of a prepare()/call workload with at least one call
    in which no thread can execute a line, exactly one server was launched and every call of every
    thread of the workload was answered (the thread returned, having received as many replies as it
    made calls). -/
theorem C16_exactly_one (w : List (List Op)) (hw : noClose w = true) (hc : hasCall w = true) (sched : List Tid) :
    let s := exec .current false sched (init w)
    s.stuck .current false = true →
    s.popen = 1 ∧ ∀ (i : Tid) (ops : List Op), w[i]? = some ops →
      ∃ th, s.threads[i]? = some th ∧ th.out = .returned ∧ th.answered = ops.count .call := by
  exact exactly_one (inv_reach w hw sched) hc

/-! non-vacuity: a workload with calls, a schedule that leaves nothing runnable, and one that does -/
example : noClose [[.prepare], [.call]] = true ∧ hasCall [[.prepare], [.call]] = true := by decide
example : (exec .current false ([0,0,0,0,0,0] ++ List.replicate 7 1 ++ [2,2,2] ++ List.replicate 7 1)
    (init [[.prepare], [.call]])).stuck .current false = true := by decide
example : (exec .current false [0,0,1] (init [[.prepare], [.call]])).final = false := by decide

/-- in EVERY reachable state (not only the final ones): a server was launched iff a connection exists,
    and a thread that is not running has returned (it did not raise) -/
theorem C16_at_most_one (w : List (List Op)) (hw : noClose w = true) (sched : List Tid) :
    let s := exec .current false sched (init w)
    (s.popen = if s.conn.isSome then 1 else 0) ∧
    (∀ (i : Tid) (th : Thr), s.threads[i]? = some th → th.out ≠ .running → th.out = .returned ∧ th.pc = .done) := by
  have h := inv_reach w hw sched
  exact ⟨h.popen_eq, fun i th hi hr => (h.thread i th hi).1.returned hr⟩

/-- the server loop is left on a close request (after closing the connection), on EOF and on
    undecodable input; any other request is answered and the loop continues -/
theorem C16_server_exits :
    (serverStep .closeReq).continues = false ∧ (serverStep .closeReq).closesConn = true ∧
    (serverStep .eof).continues = false ∧ (serverStep .garbage).continues = false ∧
    (serverStep .request).continues = true ∧ (serverStep .request).replies = 1 := by
  decide

/-- …hence a run of the loop answers exactly the requests before the first close / EOF / garbage and
    is still running iff there was none -/
theorem C16_server_run (pre : List SrvIn) (x : SrvIn) (post : List SrvIn)
    (hpre : ∀ i ∈ pre, i = .request) (hx : x ≠ .request) :
    (serverRun (pre ++ x :: post)).continues = false ∧ (serverRun (pre ++ x :: post)).replies = pre.length ∧
    (serverRun pre).continues = true :=
  have h := serverRun_stops pre x post hpre hx
  ⟨h.1, h.2, by rw [serverRun_requests pre hpre]⟩

example : (∀ i ∈ [SrvIn.request, .request], i = .request) ∧ SrvIn.eof ≠ .request := by decide

end SuppModel.Props.C16
