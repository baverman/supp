/-
  C05 — names resolve in the scope CPython's compiler assigns them to (graph-level part).
  Property theorems ONLY, about the evaluator of SuppModel/Flow/Graph.lean for every
  well-formed graph.  (That the extractor builds, for every program, the regions/scopes the
  compiler's symbol table implies is checked by the harness against `symtable`.)
-/
import SuppModel.Flow.LemmasScoping

namespace SuppModel.Props.C05
open SuppModel.Flow

/-- every binding a flow's table can contain is owned by the flow's own scope or by a scope
    on its lookup chain: enclosing functions and the module, never a class body in between
    (names assigned under `global` count as the module's) -/
theorem C05_chain (g : Graph) (hwf : g.wf = true) (n : Nat) (R : List Nat) (f : Nat) (fr : FlowRec)
    (t : Tbl) (hf : g.flow? f = some fr) (ht : flowNames g n R f = some t) :
    t.ownedBy g (lookupChain g fr.scope) :=
  ownedBy_of_all ((chainInv (WF.of g hwf) n).fl R f fr t hf ht)

/-- the same at a query position -/
theorem C05_chain_at (g : Graph) (hwf : g.wf = true) (n : Nat) (f : Nat) (fr : FlowRec) (pos : Pos)
    (t : Tbl) (hf : g.flow? f = some fr) (ht : namesAt g n [] f pos = some t) :
    t.ownedBy g (lookupChain g fr.scope) :=
  ownedBy_of_all (namesAt_chain (WF.of g hwf) hf ht)

/-- class-body bindings are never visible as bare names inside the class's methods: the
    lookup chain of a function defined in a class body does not contain the class -/
theorem C05_class_hidden (g : Graph) (hwf : g.wf = true) (m c : Nat) (sm sc : ScopeRec)
    (hm : g.scope? m = some sm) (hk : sm.kind = .func) (hp : sm.parent = some c)
    (hc : g.scope? c = some sc) (hck : sc.kind = .cls) :
    c ∉ lookupChain g m :=
  -- (holds without `hwf`: every scope on an outer chain is a function or module scope)
  (fun _ => class_hidden hm hk hp hc hck) hwf

/-- a name local to a function is never satisfied by an outer or builtin binding: in every
    flow of a function scope, the alternatives under a key the function binds itself
    (`x ∈ locals`) are bindings of that function, or "undefined" -/
theorem C05_local_not_outer (g : Graph) (hwf : g.wf = true) (n : Nat) (R : List Nat) (f : Nat)
    (fr : FlowRec) (sc : ScopeRec) (t : Tbl) (x : String) (v : Val)
    (hf : g.flow? f = some fr) (hs : g.scope? fr.scope = some sc) (hk : sc.kind = .func)
    (hx : x ∈ sc.locals) (ht : flowNames g n R f = some t) (hv : t.get? x = some v) :
    ∀ a ∈ v, (a = Alt.undef x) ∨ (∃ id nr, a = Alt.nm id ∧ g.name? id = some nr ∧ nr.scope = fr.scope ∧ ¬ g.isGlobal id) :=
  fun a ha =>
    (locInv (WF.of g hwf) hs hk n).fl R f fr t hf ht x v (Tbl.get?_mem hv) a ha rfl hx

/-! ### non-vacuity

    y = 0; x = 1                  module (scope 1): flow 10 binds y (101), x (100)
    class C:                      class body (scope 2): flow 20 binds attr (200)
        attr = 2
        def m(self):              method (scope 3, parent = the class, locals y, G):
            global G; G = 3           G (400) goes to the module's `_global_names`
            y = 4                     flow 30 binds y (300)
            ...                       flow 31 (final), predecessor flow 30
    scope 0 is the builtin scope (`len`).
-/

private def nmS (i : Nat) (s : String) (sc : Nat) : NameRec := { id := i, name := s, loc := (1, 0), scope := sc }

def exScopes : Graph :=
  Graph.mk
    [FlowRec.mk 10 1 [nmS 101 "y" 1, nmS 100 "x" 1] [],
     FlowRec.mk 20 2 [nmS 200 "attr" 2] [],
     FlowRec.mk 30 3 [nmS 300 "y" 3] [],
     FlowRec.mk 31 3 [] [Parent.flow 30]]
    [ScopeRec.mk 0 .builtin none [] 0 [],
     ScopeRec.mk 1 .module (some 0) ["y", "x", "C"] 10 [nmS 400 "G" 3],
     ScopeRec.mk 2 .cls (some 1) ["attr", "m"] 20 [],
     ScopeRec.mk 3 .func (some 2) ["y"] 31 []]
    ["len"]

/-- the graph is well-formed; the method's lookup chain is [method, module] - no class; its final
    flow sees the module's `x` and `G`, the builtin `len`, its own `y` (NOT the module's `y`), and
    not `attr` -/
example :
    exScopes.wf = true ∧ lookupChain exScopes 3 = [3, 1] ∧ lookupChain exScopes 2 = [2, 1] ∧
    flowNames exScopes 12 [] 31 =
      some [("y", [.nm 300]), ("x", [.nm 100]), ("G", [.nm 400]), ("len", [.rt "len"]), ("G", [.nm 400])] ∧
    exScopes.owner? 400 = some 1 ∧ exScopes.owner? 300 = some 3 ∧ exScopes.owner? 200 = some 2 := by
  decide +kernel

/-- hypotheses of `C05_chain` / `C05_chain_at` / `C05_local_not_outer` at flow 31, and of
    `C05_class_hidden` for the method in the class -/
example :
    exScopes.flow? 31 = some (FlowRec.mk 31 3 [] [Parent.flow 30]) ∧
    (namesAt exScopes 12 [] 31 (9, 9)).isSome = true ∧
    (exScopes.scope? 3).map (fun s => (s.kind, s.parent, s.locals)) = some (.func, some 2, ["y"]) ∧
    (exScopes.scope? 2).map (·.kind) = some .cls ∧
    ((flowNames exScopes 12 [] 31).bind (fun t => t.get? "y")) = some [.nm 300] := by
  decide +kernel

end SuppModel.Props.C05
