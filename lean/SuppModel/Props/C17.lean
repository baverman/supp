/-
  C17 — deterministic output: identical source, position and project files give identical results
  (same elements, same order) across processes and hash seeds; the alternatives of a multiply-bound
  name are listed in source order.

  Property theorems ONLY (lemmas: SuppModel/Perm/Sort.lean, SuppModel/Perm/Lemmas.lean).  Every statement is about the executable
  definitions of SuppModel/Perm/Model.lean and is quantified over ARBITRARY set-iteration orders
  `SetOrder` / `Hash` (nothing is assumed about hashing except that iterating a set yields a permutation
  of its content).  The only hypothesis is the decidable `NoTies` / `NoTiesJoin` (distinct alternatives
  have distinct locations, at most one Undefined), which the harness evaluates on every real MultiName.
  The construction before fix de6288d (`altNamesLegacy`) violates the property: Witness/C17.lean.
-/
import SuppModel.Perm.Lemmas
import SuppModel.Generated.Perm
import SuppModel.Witness.C17

namespace SuppModel.Props.C17
open SuppModel.Perm

/-- `MultiName(names)` does not depend on the iteration order of `set(allnames)` -/
theorem C17_multiname_det (s₁ s₂ : SetOrder Alt) (names : List Item) (h : NoTies names = true) :
    multiName s₁ names = multiName s₂ names :=
  congrArg mkMName (altNames_perm s₁ s₂ (.refl _) h)

/-- … nor on the order in which the caller lists the names (`list(nrow)` is itself a set order) -/
theorem C17_multiname_perm (s₁ s₂ : SetOrder Alt) (names₁ names₂ : List Item) (hp : names₁.Perm names₂)
    (h : NoTies names₁ = true) : multiName s₁ names₁ = multiName s₂ names₂ :=
  congrArg mkMName (altNames_perm s₁ s₂ hp h)

/-- the alternatives are in source order: an Undefined can only come first, names strictly increase by location -/
theorem C17_source_order (s : SetOrder Alt) (names : List Item) (h : NoTies names = true) :
    (altNames s names).Pairwise Alt.before :=
  (altNames_sorted s h).imp before_of_lt

/-- and they are exactly the distinct names given (nothing lost, nothing invented) -/
theorem C17_alternatives (s : SetOrder Alt) (names : List Item) (a : Alt) :
    a ∈ altNames s names ↔ a ∈ flatten names := by
  simp only [altNames, (sortBy_perm _ _).mem_iff, (s.perm _).mem_iff, mem_dedup]

/-- the table a join builds is the same function for any two hash orders: same value under every key … -/
theorem C17_parent_names_det (h₁ h₂ : Hash) (pnames : List Table) (h : NoTiesJoin pnames = true) (k : Str) :
    tableGet (parentNames h₁ pnames) k = tableGet (parentNames h₂ pnames) k := by
  have hrow : ∀ n ∈ h₁.strs.order (joinKeys pnames), rowValue h₁ pnames n = rowValue h₂ pnames n :=
    fun n hn => rowValue_det h₁ h₂ pnames n (List.all_eq_true.1 h n ((h₁.strs.perm _).mem_iff.1 hn))
  rw [parentNames, buildTable_congr hrow]
  exact buildTable_perm_get _ (SetOrder.perm₂ ..) k

/-- … and the same key set -/
theorem C17_parent_names_keys (h₁ h₂ : Hash) (pnames : List Table) (t₁ t₂ : List (Str × Val))
    (e₁ : parentNames h₁ pnames = .ok t₁) (e₂ : parentNames h₂ pnames = .ok t₂) :
    (t₁.map Prod.fst).Perm (t₂.map Prod.fst) := by
  rw [buildTable_keys e₁, buildTable_keys e₂]
  exact SetOrder.perm₂ ..

/-- `assist`: the sorted proposal list does not depend on the iteration order of the name set, and is
    strictly increasing in Python's `str` order -/
theorem C17_assist_det (s₁ s₂ : SetOrder Str) (marked : Str → Bool) (names : List Str) :
    assist s₁ marked names = assist s₂ marked names ∧
    (assist s₁ marked names).Pairwise (fun a b => strLt a b = true) :=
  ⟨sortBy_eq_of_perm strLt_trans ((SetOrder.perm₂ ..).filter _) (assist_excl ..),
    (sortBy_sorted strLt_trans (assist_excl ..)).imp (·.1)⟩

/-- `location()` on a multiply-bound name -/
theorem C17_location_det (s₁ s₂ : SetOrder Alt) (chase : Alt → List Decl) (names : List Item)
    (h : NoTies names = true) : location s₁ chase names = location s₂ chase names := by
  simp only [location, C17_multiname_det s₁ s₂ names h]

/-- the name a module exports for a multiply-bound key (`first_name`) -/
theorem C17_first_name_det (s₁ s₂ : SetOrder Alt) (names : List Item) (h : NoTies names = true) :
    (multiName s₁ names).bind (fun m => firstName (.multi m)) =
    (multiName s₂ names).bind (fun m => firstName (.multi m)) := by
  simp only [C17_multiname_det s₁ s₂ names h]

/-- attribute lookup on a value with several alternatives (`CompositeValue.get_attr`) -/
theorem C17_composite_det (s₁ s₂ : SetOrder Alt) (ev : Alt → Option Attrs) (names : List Item) (attr : Str)
    (h : NoTies names = true) : compositeLookup s₁ ev names attr = compositeLookup s₂ ev names attr := by
  simp only [compositeLookup, C17_multiname_det s₁ s₂ names h]

/-- every set / mapping-iteration site of supp/ (regenerated from the source on every run) is audited:
    where the order can reach an output there is a `SetOrder` counterpart in the model -/
theorem C17_sites_audited :
    Generated.sites.all (fun s => s.cls ≠ .orderReachesOutput ∨ s.modelled) = true := by decide +kernel

/-- the construction before fix de6288d (`list(set(allnames))`) violates the property: two permutations of
    the same three alternatives, two different `location()` outputs (Witness/C17.lean) -/
theorem C17_legacy_violates :
    ∃ (s₁ s₂ : SetOrder Alt) (names : List Item), NoTies names = true ∧
      locationLegacy s₁ (fun a => [.one a]) names ≠ locationLegacy s₂ (fun a => [.one a]) names :=
  ⟨Witness.C17.setOrder₁, Witness.C17.setOrder₂, Witness.C17.alts, by decide, Witness.C17.C17_perm⟩

/-! non-vacuity: a four-way definition plus "possibly undefined", nested through an inner MultiName,
    satisfies `NoTies`; a join of three predecessor tables satisfies `NoTiesJoin` -/
def exX (i l : Nat) : Alt := .name i [120] (l, 9) (l, 4) [109]
def exNames : List Item :=
  [.alt (exX 3 8), .multi 77 ⟨[.undef [120], exX 1 4, exX 2 6], [120]⟩, .alt (exX 4 10), .alt (exX 1 4), .alt (.undef [120])]
example : NoTies exNames = true := by decide +kernel
example : (multiName (SetOrder.rev Alt) exNames).map (fun m => m.altNames)
    = .ok [.undef [120], exX 1 4, exX 2 6, exX 3 8, exX 4 10] := by decide +kernel
def exTables : List Table :=
  [[([120], .alt (exX 1 4)), ([121], .alt (.name 9 [121] (2, 1) (2, 0) [109]))],
   [([120], .alt (exX 2 6)), ([121], .alt (.name 9 [121] (2, 1) (2, 0) [109]))],
   [([122], .multi 5 ⟨[exX 6 12, exX 7 14], [122]⟩)]]
example : NoTiesJoin exTables = true := by decide +kernel
example : (exportedNames [([120], .multi ⟨[.undef [120], exX 1 4, exX 2 6], [120]⟩), ([121], .single (.undef [121]))])
    = .ok [([120], exX 1 4)] := by decide +kernel

end SuppModel.Props.C17
