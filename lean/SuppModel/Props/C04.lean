/-
  C04 — answers do not depend on which positions were queried before.
  Property theorems ONLY.  They are about the graph-level evaluator of
  SuppModel/Flow/Graph.lean (pure, `lookupAt`) and SuppModel/Flow/Memo.lean (with the
  caches of scope.py made explicit, `runQueries`), for EVERY graph — in particular every
  graph the real extractor can build — and every history of queries, of any length.

  STATUS: PARTIAL.  `C04_history_stmt` / `C04_two_histories_stmt` (the property at full strength:
  every graph, every history) are FALSE of the model, also with the `loop_tracked` discipline of
  scope.py: SuppModel/Witness/C04.lean.  A table T that is final (`deps = ∅`) may have
  been computed by RESOLVING a loop l inside a nested resolution of another loop l'' whose cut
  edge l met; l's own table then depends on that resolution of l'' and dies with it, while T
  stays final (a loop's own resolution is dropped from the deps it is stored with).  When l is
  resolved again later, T is reused INSIDE that resolution, where the pure evaluator sees l's
  back edge cut.

  (1) PROVED FOR EVERY GRAPH AND EVERY HISTORY, no hypothesis:
    * `C04_pure_deterministic`: the pure evaluator's answer does not depend on the fuel;
    * `C04_memo_total`: the real evaluator (Memo.lean) answers whenever the pure one does, same
      fuel (nothing about WHICH answer);
    * `C04_checked_history`, `C04_checked_two_histories`: the CHECKED evaluator
      (SuppModel/Flow/Checked.lean, `runQueriesChecked`) has the property outright.  It is
      Memo.lean's evaluator (`C04_checked_le`: same tables, same states, whenever it answers)
      which additionally records, per cached table, the loops that were resolved to compute it
      and GIVES UP instead of reusing a table inside a resolution of one of those loops;
    * `C04_exact_history`, `C04_exact_total`: the EXACT evaluator (`runQueriesExact`: same
      book-keeping, but it recomputes instead of giving up) gives the pure evaluator's answers
      and answers whenever the pure one does — a memoised reference to compare against.
  (2) PROVED UNDER A PER-RUN HYPOTHESIS the driver evaluates (decidable, one list comparison):
    * `C04_history_partial`, `C04_two_histories_partial`: the property for every answer of the
      REAL evaluator at an index where `runQueriesChecked` gives the same answer, i.e. where the
      check did not fire.  This covers every query on graphs whose loops are not nested
      (examples below: a loop with an `if` inside, two loops in sequence — all 61 queries, 122
      orders) and, on nested loops, the queries outside the outermost loop;
    * `C04_history_validated`: the same conclusion for every answer of the REAL evaluator at an
      index where `runQueriesExact` gives the same answer (translation validation; this
      hypothesis does hold inside nested loops on every example evaluated so far).
  (3) NOT PROVED: queries inside NESTED loops (`gNested` in Witness/C04.lean).  There the real
      evaluator does reuse such tables, its intermediate tables differ from the pure evaluator's
      and the final answers agree only observationally (98 orders x 49 queries by evaluation).
      For them the property rests on the per-run comparison `runQueries = runQueriesExact`
      (translation validation: by `C04_exact_history` an agreeing answer IS the pure one) and on
      the real-code oracle search of harness/c04.py.
-/
import SuppModel.Flow.Lemmas

namespace SuppModel.Props.C04
open SuppModel.Flow

/-- the pure evaluator is a function of (graph, flow, position, name): more fuel never
    changes an answer it has given -/
theorem C04_pure_deterministic (g : Graph) (n n' : Nat) (f : Nat) (pos : Pos) (x : String)
    (a b : Option Val) (ha : lookupAt g n f pos x = some a) (hb : lookupAt g n' f pos x = some b) :
    a = b :=
  lookupAt_det g ha hb

/-- HISTORY INDEPENDENCE (full strength; FALSE of the model, see Witness/C04.lean): whatever was
    queried before on the same analysed module (any queries, any order, any number of times), an
    answer the memoised evaluator gives is the answer of the pure evaluator from a cold start. -/
def C04_history_stmt : Prop :=
  ∀ (g : Graph) (n : Nat) (qs : List Query) (i : Nat) (q : Query) (a : Option Val),
    qs[i]? = some q → (runQueries g n {} qs)[i]? = some (some a) →
    ∃ n', lookupAt g n' q.flow q.pos q.key = some a

/-- two histories agree on every query they share (full strength; FALSE of the model) -/
def C04_two_histories_stmt : Prop :=
  ∀ (g : Graph) (n₁ n₂ : Nat) (qs₁ qs₂ : List Query) (i j : Nat) (q : Query) (a b : Option Val),
    qs₁[i]? = some q → qs₂[j]? = some q →
    (runQueries g n₁ {} qs₁)[i]? = some (some a) →
    (runQueries g n₂ {} qs₂)[j]? = some (some b) → a = b

/-- the checked evaluator has the property outright, for every graph and every history -/
theorem C04_checked_history (g : Graph) (n : Nat) (qs : List Query) (i : Nat) (q : Query)
    (a : Option Val) (hq : qs[i]? = some q)
    (ha : (runQueriesChecked g n {} qs)[i]? = some (some a)) :
    ∃ n', lookupAt g n' q.flow q.pos q.key = some a :=
  runQueriesWith_sound true g n qs {} (AllValid.empty g) rfl i q a hq ha

/-- two histories of the checked evaluator agree on every query they share -/
theorem C04_checked_two_histories (g : Graph) (n₁ n₂ : Nat) (qs₁ qs₂ : List Query) (i j : Nat)
    (q : Query) (a b : Option Val) (h₁ : qs₁[i]? = some q) (h₂ : qs₂[j]? = some q)
    (ha : (runQueriesChecked g n₁ {} qs₁)[i]? = some (some a))
    (hb : (runQueriesChecked g n₂ {} qs₂)[j]? = some (some b)) : a = b := by
  obtain ⟨m₁, e₁⟩ := C04_checked_history g n₁ qs₁ i q a h₁ ha
  obtain ⟨m₂, e₂⟩ := C04_checked_history g n₂ qs₂ j q b h₂ hb
  exact C04_pure_deterministic g m₁ m₂ q.flow q.pos q.key a b e₁ e₂

/-- where the checked evaluator answers a query, the real one, from the same state, gives the
    same table and reaches the same state: the checked evaluator only ever gives up -/
theorem C04_checked_le (g : Graph) (n : Nat) (m m' : CMemo) (f : Nat) (pos : Pos) (t : Tbl)
    (h : cNamesAt true g n m f pos = some (m', t)) :
    mNamesAt g n m.erase f pos = some (m'.erase, t) :=
  cNamesAt_le g n h

/-- the exact evaluator (recompute instead of giving up) gives the pure evaluator's answers, for
    every graph and every history: the reference for the per-run comparison -/
theorem C04_exact_history (g : Graph) (n : Nat) (qs : List Query) (i : Nat) (q : Query)
    (a : Option Val) (hq : qs[i]? = some q)
    (ha : (runQueriesExact g n {} qs)[i]? = some (some a)) :
    ∃ n', lookupAt g n' q.flow q.pos q.key = some a :=
  runQueriesWith_sound false g n qs {} (AllValid.empty g) rfl i q a hq ha

/-- and it never gives up: it answers whenever the pure evaluator does (same fuel) -/
theorem C04_exact_total (g : Graph) (n : Nat) (qs : List Query) (i : Nat) (q : Query)
    (hq : qs[i]? = some q)
    (hall : ∀ q' ∈ qs, (lookupAt g n q'.flow q'.pos q'.key).isSome) :
    ((runQueriesExact g n {} qs)[i]?.bind id).isSome :=
  runQueriesExact_total g n qs {} rfl hall i q hq

/-- per-run translation validation: an answer of the real evaluator that the exact evaluator
    reproduces is the pure evaluator's (this hypothesis can hold inside nested loops, where the
    one of `C04_history_partial` does not) -/
theorem C04_history_validated (g : Graph) (n : Nat) (qs : List Query) (i : Nat) (q : Query)
    (a : Option Val)
    (hval : (runQueriesExact g n {} qs)[i]? = (runQueries g n {} qs)[i]?)
    (hq : qs[i]? = some q) (ha : (runQueries g n {} qs)[i]? = some (some a)) :
    ∃ n', lookupAt g n' q.flow q.pos q.key = some a :=
  C04_exact_history g n qs i q a hq (hval.trans ha)

/-- HISTORY INDEPENDENCE, for every answer the checked evaluator confirms: whatever was queried
    before (any queries, any order, any number of times), such an answer of the memoised
    evaluator is the answer of the pure evaluator from a cold start. -/
theorem C04_history_partial (g : Graph) (n : Nat) (qs : List Query) (i : Nat) (q : Query)
    (a : Option Val)
    (hchk : (runQueriesChecked g n {} qs)[i]? = (runQueries g n {} qs)[i]?)
    (hq : qs[i]? = some q) (ha : (runQueries g n {} qs)[i]? = some (some a)) :
    ∃ n', lookupAt g n' q.flow q.pos q.key = some a :=
  C04_checked_history g n qs i q a hq (hchk.trans ha)

/-- consequently two histories agree on every such query they share -/
theorem C04_two_histories_partial (g : Graph) (n₁ n₂ : Nat) (qs₁ qs₂ : List Query) (i j : Nat)
    (q : Query) (a b : Option Val)
    (hchk₁ : (runQueriesChecked g n₁ {} qs₁)[i]? = (runQueries g n₁ {} qs₁)[i]?)
    (hchk₂ : (runQueriesChecked g n₂ {} qs₂)[j]? = (runQueries g n₂ {} qs₂)[j]?)
    (h₁ : qs₁[i]? = some q) (h₂ : qs₂[j]? = some q)
    (ha : (runQueries g n₁ {} qs₁)[i]? = some (some a))
    (hb : (runQueries g n₂ {} qs₂)[j]? = some (some b)) : a = b :=
  C04_checked_two_histories g n₁ n₂ qs₁ qs₂ i j q a b h₁ h₂ (hchk₁.trans ha) (hchk₂.trans hb)

/-- and the memoised evaluator does answer whenever the pure one does: a cache hit never
    costs an answer (same fuel) -/
theorem C04_memo_total (g : Graph) (n : Nat) (qs : List Query) (i : Nat) (q : Query)
    (hq : qs[i]? = some q)
    (hall : ∀ q' ∈ qs, (lookupAt g n q'.flow q'.pos q'.key).isSome) :
    ((runQueries g n {} qs)[i]?.bind id).isSome :=
  runQueries_total g n qs {} rfl hall i q hq

/-! ### non-vacuity: a module with a `for` loop whose body contains an `if`

    flow 0  module top, binds x                          x = 0
    flow 1  loop head / body start, binds i              for i in x:
            parents: flow 0 and the back edge (loop 0, from flow 3)
    flow 2  `if` branch, binds y                             if i: y = 1
    flow 3  join after the `if`, binds z  (body end)         z = 2
    flow 4  after the loop, binds w                      w = 3
-/

private def nm (i : Nat) (s : String) : NameRec := { id := i, name := s, loc := (1, 0), scope := 0 }

def exGraph : Graph :=
  Graph.mk
    [FlowRec.mk 0 0 [nm 100 "x"] [],
     FlowRec.mk 1 0 [nm 101 "i"] [Parent.flow 0, Parent.loop 0 3],
     FlowRec.mk 2 0 [nm 102 "y"] [Parent.flow 1],
     FlowRec.mk 3 0 [nm 103 "z"] [Parent.flow 2, Parent.flow 1],
     FlowRec.mk 4 0 [nm 104 "w"] [Parent.flow 1]]
    [ScopeRec.mk 0 .module none [] 4 []] []

def qA : Query := ⟨3, (0, 0), "y"⟩   -- `y` at the join: maybe unbound
def qB : Query := ⟨4, (9, 9), "z"⟩   -- `z` after the loop: maybe unbound (zero iterations)
def qC : Query := ⟨2, (0, 0), "z"⟩   -- `z` inside the `if`: bound by the previous iteration only

/-- both orders give the same answers (permuted), and they are the pure evaluator's -/
example :
    runQueries exGraph 20 {} [qA, qB, qC] =
      [some (some [.undef "y", .nm 102]), some (some [.undef "z", .nm 103]),
       some (some [.undef "z", .nm 103])] ∧
    runQueries exGraph 20 {} [qC, qB, qA] =
      [some (some [.undef "z", .nm 103]), some (some [.undef "z", .nm 103]),
       some (some [.undef "y", .nm 102])] ∧
    [qA, qB, qC].map (fun q => lookupAt exGraph 20 q.flow q.pos q.key) =
      [some (some [.undef "y", .nm 102]), some (some [.undef "z", .nm 103]),
       some (some [.undef "z", .nm 103])] := by
  decide +kernel

/-- the hypotheses of `C04_history_partial` / `C04_two_histories_partial` (and of
    `C04_checked_history`) are met by both histories, at every index, with answers that are not
    `none`: the check never fires -/
example :
    runQueriesChecked exGraph 20 {} [qA, qB, qC] = runQueries exGraph 20 {} [qA, qB, qC] ∧
    runQueriesChecked exGraph 20 {} [qC, qB, qA] = runQueries exGraph 20 {} [qC, qB, qA] ∧
    [qA, qB, qC][2]? = some qC ∧ [qC, qB, qA][0]? = some qC ∧
    (runQueries exGraph 20 {} [qA, qB, qC])[2]? = some (some (some [.undef "z", .nm 103])) ∧
    (runQueries exGraph 20 {} [qC, qB, qA])[0]? = some (some (some [.undef "z", .nm 103])) :=
  ⟨by decide +kernel, by decide +kernel, rfl, rfl, by decide +kernel, by decide +kernel⟩

/-- the hypothesis of `C04_memo_total` is met -/
example : ∀ q' ∈ [qA, qB, qC], (lookupAt exGraph 20 q'.flow q'.pos q'.key).isSome := by
  decide +kernel

/-- the hypothesis of `C04_checked_le` is met, from the empty state and from the non-trivial state
    reached after `qB` (12 cache entries) -/
example :
    (cNamesAt true exGraph 20 {} qB.flow qB.pos).isSome ∧
    ((cNamesAt true exGraph 20 {} qB.flow qB.pos).map (fun r => r.1.entries.length)) = some 12 ∧
    ((cNamesAt true exGraph 20 {} qB.flow qB.pos).bind
      (fun r => cNamesAt true exGraph 20 r.1 qC.flow qC.pos)).isSome := by
  decide +kernel

/-- two loops in sequence (flow 1 / body 2 / back edge loop 1, then flow 3 / body 4 / back edge
    loop 2, flow 5 after): also inside the domain of the partial theorems, in both query orders -/
def exSeq : Graph :=
  Graph.mk
    [FlowRec.mk 0 0 [nm 100 "x"] [],
     FlowRec.mk 1 0 [nm 101 "i"] [Parent.flow 0, Parent.loop 1 2],
     FlowRec.mk 2 0 [nm 102 "y"] [Parent.flow 1],
     FlowRec.mk 3 0 [nm 103 "j"] [Parent.flow 1, Parent.loop 2 4],
     FlowRec.mk 4 0 [nm 104 "z"] [Parent.flow 3],
     FlowRec.mk 5 0 [nm 105 "w"] [Parent.flow 3]]
    [ScopeRec.mk 0 .module none [] 5 []] []

def seqHistory : List Query := [⟨4, (0, 0), "y"⟩, ⟨5, (9, 9), "z"⟩, ⟨2, (0, 0), "y"⟩, ⟨4, (0, 0), "z"⟩]

example :
    runQueriesChecked exSeq 30 {} seqHistory = runQueries exSeq 30 {} seqHistory ∧
    runQueriesChecked exSeq 30 {} seqHistory.reverse = runQueries exSeq 30 {} seqHistory.reverse ∧
    runQueries exSeq 30 {} seqHistory =
      [some (some [.undef "y", .nm 102]), some (some [.undef "z", .nm 104]),
       some (some [.undef "y", .nm 102]), some (some [.undef "z", .nm 104])] ∧
    (runQueries exSeq 30 {} seqHistory.reverse).reverse = runQueries exSeq 30 {} seqHistory ∧
    seqHistory.map (fun q => lookupAt exSeq 30 q.flow q.pos q.key) = runQueries exSeq 30 {} seqHistory := by
  decide +kernel

/-- every (flow, name) pair of a graph with flows `0 … nf-1`, at the end of each region -/
def allQueries (nf : Nat) (names : List String) : List Query :=
  (List.range nf).flatMap (fun f => names.map (fun k => ⟨f, (9, 9), k⟩))

/-- on history `qs`: the check never fires (hypothesis of the partial theorems, at every index),
    the exact evaluator agrees (hypothesis of `C04_history_validated`) and every answer is the
    pure evaluator's -/
def coveredAndPure (g : Graph) (fuel : Nat) (qs : List Query) : Bool :=
  runQueriesChecked g fuel {} qs == runQueries g fuel {} qs &&
  runQueriesExact g fuel {} qs == runQueries g fuel {} qs &&
  runQueries g fuel {} qs == qs.map (fun q => lookupAt g fuel q.flow q.pos q.key)

/-- all 25 queries of `exGraph` and all 36 of `exSeq`, asked in every rotation of the list and
    its reversal (50 + 72 histories): hypotheses met, answers pure, none of them `none` -/
example :
    (List.range 25).all (fun k =>
      let qs := (allQueries 5 ["x", "i", "y", "z", "w"]).drop k ++ (allQueries 5 ["x", "i", "y", "z", "w"]).take k
      coveredAndPure exGraph 20 qs && coveredAndPure exGraph 20 qs.reverse &&
      (runQueries exGraph 20 {} qs).all Option.isSome) = true ∧
    (List.range 36).all (fun k =>
      let qs := (allQueries 6 ["x", "i", "y", "j", "z", "w"]).drop k ++ (allQueries 6 ["x", "i", "y", "j", "z", "w"]).take k
      coveredAndPure exSeq 30 qs && coveredAndPure exSeq 30 qs.reverse &&
      (runQueries exSeq 30 {} qs).all Option.isSome) = true := by
  -- evaluated, per graph: the pure answers exist; per history: the checked evaluator never gives up.
  -- Then its answers are the pure ones (`runQueriesWith_eq_pure_of_answers`), the real evaluator ran
  -- like it (`runQueries_eq_checked`) and the exact one gives the pure answers too
  -- (`runQueriesExact_eq_pure`).
  have sweep : ∀ {g : Graph} {n N : Nat} {l : List Query},
      (∀ q ∈ l, (lookupAt g n q.flow q.pos q.key).isSome) →
      (List.range N).all (fun k =>
        (runQueriesChecked g n {} (l.drop k ++ l.take k)).all Option.isSome &&
        (runQueriesChecked g n {} (l.drop k ++ l.take k).reverse).all Option.isSome) = true →
      (List.range N).all (fun k =>
        let qs := l.drop k ++ l.take k
        coveredAndPure g n qs && coveredAndPure g n qs.reverse &&
        (runQueries g n {} qs).all Option.isSome) = true := by
    intro g n N l hs hm
    refine List.all_eq_true.mpr fun k hk => ?_
    have h := List.all_eq_true.mp hm k hk
    rw [Bool.and_eq_true] at h
    have h1 := covered_of_checked_answers (fun q hq => hs q (mem_of_mem_rotate hq)) h.1
    have h2 := covered_of_checked_answers
      (fun q hq => hs q (mem_of_mem_rotate (List.mem_reverse.mp hq))) h.2
    simp only [Bool.and_eq_true]
    exact ⟨⟨h1.1, h2.1⟩, h1.2⟩
  exact ⟨sweep (by decide +kernel) (by decide +kernel), sweep (by decide +kernel) (by decide +kernel)⟩

end SuppModel.Props.C04
