/-
  C06 — attribute completion and definition follow Python's lookup order.
  Property theorems ONLY (lemmas: SuppModel/Attrs/Lemmas*.lean; witnesses: SuppModel/Witness/C06.lean).
  Statements are about the executable tables `classAttrs` (= ClassObject._attrs) and `instAttrs`
  (= InstanceValue._attrs) of SuppModel/Attrs/Model.lean against the specification of SuppModel/Attrs/Spec.lean
  (`mro`, `classLookup`, `instAssigned`).  Domain: `Acyclic` (the in-progress guard of the tables never fires;
  on an inheritance cycle the guard cuts the cycle — the tables are still total, `C06_total` — and no lookup order is
  claimed) and `NoRepeatedAncestors` (there the depth-first linearisation `mro` IS Python's
  C3 MRO; the theorems themselves hold of the depth-first order on every acyclic hierarchy, the hypothesis marks
  where that order is Python's — the harness compares `mro` with CPython's `__mro__`).
-/
import SuppModel.Attrs.Lemmas
import SuppModel.Witness.C06

namespace SuppModel.Props.C06
open SuppModel.Attrs

/-- looking a name up in a class's table gives the definition of the first MRO entry that defines it
    (a class body's last binding; a builtin base contributes its names at its MRO position) -/
theorem C06_class_lookup (h : Hier) (c : ClassId) (x : String)
    (ha : Acyclic h c) (_hd : NoRepeatedAncestors h c) :
    Dict.get (classAttrs h c) x = classLookup h c x :=
  get_classAttrs ha

/-- looking a name up on an instance gives the assignments through `self` made by a class of the MRO
    (all of that class's, the first class of the MRO that has any) whenever some class of the MRO assigns
    it, and otherwise the class lookup (below which supp puts `dir()` of a runtime instance of a direct
    builtin base) -/
theorem C06_instance_lookup (h : Hier) (c : ClassId) (x : String)
    (ha : Acyclic h c) (_hd : NoRepeatedAncestors h c) :
    (instAssigned h c x = true →
      ∃ d, MroEntry.cls d ∈ mro h c ∧ selfSites (getDef h d) x ≠ [] ∧
        Dict.get (instAttrs h c) x = some (.multi (selfSites (getDef h d) x))) ∧
    (instAssigned h c x = false →
      Dict.get (instAttrs h c) x = (classLookup h c x).or (runtimeInstLookup h c x)) := by
  rw [get_instAttrs ha, instAssigned_eq]
  cases hf : (mro h c).findSome? (instEntry h x) with
  | none => exact ⟨fun hi => (nomatch hi), fun _ => rfl⟩
  | some v =>
    refine ⟨fun _ => ?_, fun hi => (nomatch hi)⟩
    obtain ⟨e, hem, hev⟩ := List.exists_of_findSome?_eq_some hf
    obtain ⟨d, rfl, hne, rfl⟩ := instEntry_eq_some.mp hev
    exact ⟨d, hem, hne, rfl⟩

/-- completeness without phantoms, instances: the proposals are exactly the class-body names and the
    self-assigned names of the classes of the MRO, the names of the builtin entries of the MRO, and `dir()` of
    a runtime instance of a direct builtin base -/
theorem C06_complete (h : Hier) (c : ClassId) (x : String)
    (ha : Acyclic h c) (_hd : NoRepeatedAncestors h c) :
    x ∈ Dict.keys (instAttrs h c) ↔
      (∃ d, MroEntry.cls d ∈ mro h c ∧ (x ∈ bodyNames (getDef h d) ∨ x ∈ selfNames (getDef h d))) ∨
      (∃ nm attrs, MroEntry.builtin nm attrs ∈ mro h c ∧ x ∈ attrs) ∨
      (∃ nm attrs inst, Base.builtin nm attrs inst ∈ (getDef h c).bases ∧ x ∈ inst) := by
  rw [← Dict.get_isSome_iff, get_instAttrs ha]
  simp only [Option.isSome_or, Bool.or_eq_true, classLookup, List.findSome?_isSome_iff, MroEntry.exists_mem,
    instEntry_cls_isSome_iff, instEntry_builtin, classEntry_cls_isSome_iff, classEntry_builtin_isSome_iff,
    runtimeInstLookup_isSome_iff, Option.isSome_none, Bool.false_eq_true, and_false, exists_false, or_false,
    and_or_left, exists_or]
  -- the same four alternatives, grouped differently
  exact (or_congr_right or_assoc).trans (or_left_comm.trans or_assoc.symm)

/-- completeness without phantoms, classes -/
theorem C06_complete_class (h : Hier) (c : ClassId) (x : String)
    (ha : Acyclic h c) (_hd : NoRepeatedAncestors h c) :
    x ∈ Dict.keys (classAttrs h c) ↔
      (∃ d, MroEntry.cls d ∈ mro h c ∧ x ∈ bodyNames (getDef h d)) ∨
      (∃ nm attrs, MroEntry.builtin nm attrs ∈ mro h c ∧ x ∈ attrs) := by
  rw [← Dict.get_isSome_iff, get_classAttrs ha, classLookup, List.findSome?_isSome_iff, MroEntry.exists_mem]
  simp only [classEntry_cls_isSome_iff, classEntry_builtin_isSome_iff]

/-- the fuel is immaterial on acyclic hierarchies: whenever an amount suffices, the linearisation and every lookup
    in both tables are the same -/
theorem C06_fuel_independent (h : Hier) (c : ClassId) (x : String) (n m : Nat)
    (hn : okG n [] h c = true) (hm : okG m [] h c = true) :
    mroF n h c = mroF m h c ∧
    Dict.get (classAttrsG n [] h c) x = Dict.get (classAttrsG m [] h c) x ∧
    Dict.get (instOnlyG n [] h c) x = Dict.get (instOnlyG m [] h c) x := by
  have hmro : mroF n h c = mroF m h c :=
    (mroF_eq_of_okF (okF_of_okG hn) (Nat.le_max_left n m)).symm.trans
      (mroF_eq_of_okF (okF_of_okG hm) (Nat.le_max_right n m))
  refine ⟨hmro, ?_, ?_⟩
  · rw [get_classAttrsG hn, get_classAttrsG hm, hmro]
  · rw [get_instOnlyG hn, get_instOnlyG hm, hmro]

/-- totality, cyclic hierarchies included (no hypothesis): the in-progress guard bounds the recursion by the number
    of classes — `fuel h` = number of classes + 1 is always enough, more fuel never changes a table.  (Before a174aec
    the code had no guard and a cycle ended in RecursionError.) -/
theorem C06_total (h : Hier) (c : ClassId) (k : Nat) :
    classAttrsG (fuel h + k) [] h c = classAttrs h c ∧ instOnlyG (fuel h + k) [] h c = instOnly h c :=
  tables_total h c k

/-! non-vacuity: a diamond-free hierarchy of depth 3 with an override at every level, a rebinding inside one
    body, self-assignments in two classes, a builtin and an unevaluable base, multiple inheritance:
      class A(object): m(1) a(2) m(3)            self.x(4)
      class B(A):      m(5) b(6)                 self.x(7) self.y(8) self.x(9)
      class M:         m(10) k(11) x(12)
      class D(M, B, <unknown>): m(13)                                                       -/
def hEx : Hier :=
  [(0, ⟨[.builtin "object" ["__init__", "__repr__"] ["__class__", "__init__", "__repr__"]],
        [("m", 1), ("a", 2), ("m", 3)], [("x", 4)]⟩),
   (1, ⟨[.src 0], [("m", 5), ("b", 6)], [("x", 7), ("y", 8), ("x", 9)]⟩),
   (2, ⟨[], [("m", 10), ("k", 11), ("x", 12)], []⟩),
   (3, ⟨[.src 2, .src 1, .unknown], [("m", 13)], []⟩)]

example : Acyclic hEx 3 ∧ NoRepeatedAncestors hEx 3 := by decide +kernel
example : mro hEx 3 = [.cls 3, .cls 2, .cls 1, .cls 0, .builtin "object" ["__init__", "__repr__"]] := by decide +kernel
-- overrides: D's m; B's m on an instance of B; the last binding of m in A
example : classLookup hEx 3 "m" = some (.site 13) ∧ classLookup hEx 1 "m" = some (.site 5) ∧
    classLookup hEx 0 "m" = some (.site 3) := by decide +kernel
-- `x` is a class-body name of M and self-assigned in B and A: both hypotheses of C06_instance_lookup occur
example : instAssigned hEx 3 "x" = true ∧ instAssigned hEx 3 "k" = false ∧
    Dict.get (instAttrs hEx 3) "x" = some (.multi [7, 9]) ∧
    Dict.get (instAttrs hEx 3) "k" = some (.site 11) ∧
    Dict.get (instAttrs hEx 3) "__init__" = some (.builtin "object") := by decide +kernel
example : Dict.keys (instAttrs hEx 3) = ["__init__", "__repr__", "m", "a", "b", "k", "x", "y"] := by decide +kernel
-- C06_fuel_independent: two different sufficient amounts of fuel exist
example : okG 3 [] hEx 3 = true ∧ okG 7 [] hEx 3 = true := by decide +kernel

/-! `C06_total` on a cyclic hierarchy: `class A(B): a`, `class B(A): b` (across two modules).  Collecting A meets A
    again below B: that occurrence contributes nothing, so A's table is B's body then A's; the hierarchy is outside
    `Acyclic` -/
def hCyc : Hier := [(0, ⟨[.src 1], [("a", 1)], [("ai", 2)]⟩), (1, ⟨[.src 0], [("b", 3)], [("bi", 4)]⟩)]
example : ¬ Acyclic hCyc 0 := by decide +kernel
example : Dict.keys (classAttrs hCyc 0) = ["b", "a"] ∧ Dict.keys (classAttrs hCyc 1) = ["a", "b"] ∧
    Dict.keys (instAttrs hCyc 0) = ["b", "a", "bi", "ai"] := by decide +kernel

end SuppModel.Props.C06
