/-
  C04 — history independence of the attribute evaluator's cache discipline (supp/util.py `cycle_guard`,
  `cached_property`, `context_property`; supp/evaluator.py `EvalCtx`), model SuppModel/EvalMemo/Basic.lean.
  Property theorems ONLY; proofs in SuppModel/EvalMemo/Lemmas*.lean.

  STATUS: FULL STRENGTH — every dependency graph (cyclic or not), every request history, no hypothesis.
  The legacy discipline (keep everything for good) is refuted in SuppModel/Witness/C04Eval.lean.
-/
import SuppModel.EvalMemo.LemmasRel
import SuppModel.Witness.C04Eval
namespace SuppModel.EvalMemo

/-- Invariant: whatever a request history leaves in a slot for good is the value of that node evaluated on
    its own without any cache, and that evaluation meets no cut. -/
theorem C04Eval_final_invariant (g : Graph) (h : List Nat) (n : Nat) (v : Val)
    (hv : (runHistory g h St.empty).fin n = some v) :
    evalPure g (g.length + 1) [] n = (v, false) :=
  ((Inv.empty g).runHistory h).fin_ok n v hv

example : (runHistory [[1, 3], [2], [1], []] [0] St.empty).fin 3 = some [3] := by decide +kernel

/-- History independence: the answer to a request after any history of requests on one long-lived project
    is the answer a fresh project gives. -/
theorem C04Eval_history (g : Graph) (h : List Nat) (n : Nat) :
    (request g (runHistory g h St.empty) n).1 = (request g St.empty n).1 :=
  request_indep (Nat.lt_succ_self _) ((Inv.empty g).runHistory h) (Inv.empty g) n

/-- non-vacuity: a cyclic graph on which the first request leaves provisional values behind, the counter
    moved, nothing above the cycle was kept for good — and the next answer is still the fresh one -/
example :
    let s := runHistory Witness.g₁ [0] St.empty
    s.prov 1 = some (1, [1, 2]) ∧ s.prov 2 = some (1, [2]) ∧ s.prov 0 = some (1, [0, 1, 2, 2]) ∧
    s.fin 0 = none ∧ s.fired = 2 ∧ (request Witness.g₁ s 2).1 = [2, 1] := by decide +kernel

/-- two histories: the answer does not depend on which one came before -/
theorem C04Eval_two_histories (g : Graph) (h₁ h₂ : List Nat) (n : Nat) :
    (request g (runHistory g h₁ St.empty) n).1 = (request g (runHistory g h₂ St.empty) n).1 :=
  (C04Eval_history g h₁ n).trans (C04Eval_history g h₂ n).symm

/-- every answer along a history is the fresh answer -/
theorem C04Eval_answers (g : Graph) (h : List Nat) :
    answers g h St.empty = h.map (fun n => (request g St.empty n).1) :=
  answers_eq h (Inv.empty g)

example : answers Witness.g₁ [0, 2, 1, 0] St.empty = [[0, 1, 2, 2], [2, 1], [1, 2], [0, 1, 2, 2]] := by decide +kernel

/-- the fuel `request` supplies is not a bound on anything: any larger fuel gives the same answers,
    and history independence holds for every sufficient fuel -/
theorem C04Eval_history_fuel (g : Graph) (f : Nat) (hf : g.length < f) (h : List Nat) (n : Nat) :
    requestF g f (runHistory g h St.empty) n = request g (runHistory g h St.empty) n ∧
    (requestF g f (runHistory g h St.empty) n).1 = (requestF g f St.empty n).1 :=
  ⟨evalM_fuel f (g.length + 1) [] n _ (free_nil_lt hf)
      (free_nil_lt (Nat.lt_succ_self _)),
   request_indep hf ((Inv.empty g).runHistory h) (Inv.empty g) n⟩

/-- the same for the cache-free evaluator -/
theorem C04Eval_pure_fuel (g : Graph) (f : Nat) (hf : g.length < f) (n : Nat) :
    evalPure g f [] n = evalPure g (g.length + 1) [] n :=
  evalPure_fuel f (g.length + 1) [] n (free_nil_lt hf)
    (free_nil_lt (Nat.lt_succ_self _))

/-- a node whose evaluation meets no cut: after any history the answer is its cache-free value, the
    cut counter does not move and no provisional slot is written -/
theorem C04Eval_acyclic_exact (g : Graph) (h : List Nat) (n : Nat)
    (hn : (evalPure g (g.length + 1) [] n).2 = false) :
    let s := runHistory g h St.empty
    (request g s n).1 = (evalPure g (g.length + 1) [] n).1 ∧ (request g s n).2.fired = s.fired := by
  have a := (requestF_spec (Nat.lt_succ_self _) ((Inv.empty g).runHistory h) n).acyc hn
  exact ⟨a.1, a.2.1⟩

example : (evalPure [[1, 2], [2], []] 4 [] 0) = ([0, 1, 2, 2], false) := by decide +kernel

/-- the discipline before /repo 265f3e6 (`evalLegacy`: every computed value is kept for good) does NOT have
    the property (witness g₁, history [0], request 2: SuppModel/Witness/C04Eval.lean) -/
theorem C04Eval_legacy_refuted :
    ¬ ∀ (g : Graph) (h : List Nat) (n : Nat),
      (requestLegacy g (runHistoryLegacy g h St.empty) n).1 = (requestLegacy g St.empty n).1 :=
  Witness.legacy_not_history_independent

end SuppModel.EvalMemo
