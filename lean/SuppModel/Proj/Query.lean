/- Proj: what a query denotes on a disk (`pQuery`, no project state), and that `runQuery` is a step that computes it. -/
import SuppModel.Proj.Analysis

namespace SuppModel.Proj

def pAttrList (E : Disk) (n : Nat) : Val → Except Err Ans
  | .nothing => .ok .nothing
  | .obj p => .ok (.payload p)
  | .module k =>
    match pTable E n k with
    | .error e => .error e
    | .ok none => .ok .nothing
    | .ok (some t) => .ok (.names (exportedNames t))

def pGetAttr (E : Disk) (n : Nat) (y : Ident) : Val → Except Err (Option (Mod × Entry))
  | .nothing => .ok none
  | .obj _ => .ok none
  | .module k =>
    match pTable E n k with
    | .error e => .error e
    | .ok none => .ok none
    | .ok (some t) => .ok ((lookupLast y t).map (fun e => (k, e)))

variable {D E : Disk} {n : Nat} {st st' : St}

theorem attrList_step {v : Val} {a : Ans} (h : attrList D n st v = .ok (a, st')) :
    Step D E st st' (ValIn st v) (Ev (fun n => pAttrList E n v) a) := by
  cases v with
  | module k =>
    rw [attrList] at h
    split at h
    · cases h
    all_goals
      next hsc =>
      cases h
      exact (scopeOf_step n _ _ _ _ hsc).mp fun hev => hev.map fun n hn => by simp only [pAttrList, hn]
  | _ => cases h; exact Step.refl fun _ _ => Ev.const fun _ => rfl

theorem getAttr_step {y : Ident} {v : Val} {a} (h : getAttr D n st y v = .ok (a, st')) :
    Step D E st st' (ValIn st v) (Ev (fun n => pGetAttr E n y v) a) := by
  cases v with
  | module k =>
    rw [getAttr] at h
    split at h
    · cases h
    all_goals
      next hsc =>
      cases h
      exact (scopeOf_step n _ _ _ _ hsc).mp fun hev => hev.map fun n hn => by simp only [pGetAttr, hn]
  | _ => cases h; exact Step.refl fun _ _ => Ev.const fun _ => rfl

/-- the prefix shared by the `attr` and `loc` queries -/
def pAttrChain (E : Disk) (n : Nat) (m : Mod) (mn : Option Ident) (y : Ident) : Except Err (Option (List Loc × Val)) :=
  match pFollow E n none (.imp 0 1 m mn) with
  | .error e => .error e
  | .ok (_, v) =>
    match pGetAttr E n y v with
    | .error e => .error e
    | .ok none => .ok none
    | .ok (some (k, e)) =>
      match pFollow E n (some k) e with
      | .error e => .error e
      | .ok r => .ok (some r)

def pQuery (E : Disk) (n : Nat) : Query → Except Err Ans
  | .names m mn =>
    match pFollow E n none (.imp 0 1 m mn) with
    | .error e => .error e
    | .ok (_, v) => pAttrList E n v
  | .attr m mn y =>
    match pAttrChain E n m mn y with
    | .error e => .error e
    | .ok none => .ok .nothing
    | .ok (some (_, v)) => pAttrList E n v
  | .loc m mn y =>
    match pAttrChain E n m mn y with
    | .error e => .error e
    | .ok none => .ok (.locs [])
    | .ok (some (tr, _)) => .ok (.locs tr)
  | .lint m reads =>
    match pTable E n m with
    | .error e => .error e
    | .ok none => .ok (.undefined reads)
    | .ok (some t) =>
      .ok (.undefined (reads.filter (fun x => !((exportedNames t).filter (fun x => !hidden x)).contains x)))

theorem attrChain_none {st1 st2 : St} {m mn y tr v}
    (hf : follow D n st none (.imp 0 1 m mn) = .ok ((tr, v), st1)) (hga : getAttr D n st1 y v = .ok (none, st2)) :
    Step D E st st2 True (Ev (fun n => pAttrChain E n m mn y) none) :=
  (follow_step n _ _ _ _ _ hf).trans (getAttr_step hga) fun ⟨hev, hv⟩ => ⟨hv, fun hev2 =>
    hev.map₂ hev2 fun n h1 h2 => by simp only [pAttrChain, h1, h2]⟩

theorem attrChain_some {st1 st2 st3 : St} {m mn y tr v k e r}
    (hf : follow D n st none (.imp 0 1 m mn) = .ok ((tr, v), st1))
    (hga : getAttr D n st1 y v = .ok (some (k, e), st2)) (hf2 : follow D n st2 (some k) e = .ok (r, st3)) :
    Step D E st st3 True (Ev (fun n => pAttrChain E n m mn y) (some r) ∧ ValIn st3 r.2) :=
  ((follow_step n _ _ _ _ _ hf).trans (getAttr_step hga) fun ⟨hev, hv⟩ => ⟨hv, And.intro hev⟩).trans
    (follow_step n _ _ _ _ _ hf2) fun ⟨hev1, hev2⟩ => ⟨trivial, fun ⟨hev3, hv⟩ =>
      ⟨((Eventually.and hev1 hev2).and hev3).mono fun n ⟨⟨h1, h2⟩, h3⟩ => by
        simp only [pAttrChain, h1, h2, h3], hv⟩⟩

theorem runQuery_step {q : Query} {a : Ans}
    (h : runQuery D n st q = .ok (a, st')) : Step D E st st' True (Ev (fun n => pQuery E n q) a) := by
  cases q with
  | names m mn =>
    rw [runQuery] at h
    split at h
    · cases h
    · next hf =>
      exact (follow_step n _ _ _ _ _ hf).trans (attrList_step h) fun ⟨hev, hv⟩ => ⟨hv, fun hev2 =>
        hev.map₂ hev2 fun n h1 h2 => by simp only [pQuery, h1, h2]⟩
  | attr m mn y =>
    rw [runQuery] at h
    split at h
    · cases h
    · next hf =>
      split at h
      · cases h
      · next hga =>
        cases h
        exact (attrChain_none hf hga).mp fun hev => hev.map fun n hn => by simp only [pQuery, hn]
      · next hga =>
        split at h
        · cases h
        · next hf2 =>
          exact (attrChain_some hf hga hf2).trans (attrList_step h) fun ⟨hev, hv⟩ => ⟨hv, fun hev2 =>
            hev.map₂ hev2 fun n h1 h2 => by simp only [pQuery, h1, h2]⟩
  | loc m mn y =>
    rw [runQuery] at h
    split at h
    · cases h
    · next hf =>
      split at h
      · cases h
      · next hga =>
        cases h
        exact (attrChain_none hf hga).mp fun hev => hev.map fun n hn => by simp only [pQuery, hn]
      · next hga =>
        split at h
        · cases h
        · next hf2 =>
          cases h
          exact (attrChain_some hf hga hf2).mp fun ⟨hev, _⟩ => hev.map fun n hn => by simp only [pQuery, hn]
  | lint m reads =>
    rw [runQuery] at h
    split at h
    · next hgm =>
      cases h
      exact (getModule_false hgm).mp fun hno => Ev.const fun n => by simp only [pQuery, pTable_none hno]
    · next hgm =>
      split at h
      · cases h
      all_goals
        next hsc =>
        cases h
        exact ((scopeOf_step n).after hgm hsc).mp fun hev => hev.map fun n hn => by simp only [pQuery, hn]

end SuppModel.Proj
