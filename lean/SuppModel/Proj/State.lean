/- Proj: association lists, and how the operations on a project state act on its fields; the footprint of a
   state (`foot`) and what it means for a later state to have looked at more (`Mono`, `Keeps`). -/
import SuppModel.Proj.Spec

namespace SuppModel.Proj

-- `okinj h`: from `h : .ok (a, s) = .ok (a', s')`, substitute both components
macro "okinj " h:ident : tactic =>
  `(tactic| (simp only [Except.ok.injEq, Prod.mk.injEq] at $h:ident; obtain ⟨h1, h2⟩ := $h:ident; subst h1; subst h2))

@[simp] theorem get_nil {α} (m : Mod) : get ([] : List (Mod × α)) m = none := rfl
theorem get_cons {α} (k : Mod) (v : α) (r m) :
    get ((k, v) :: r) m = if k = m then some v else get r m := rfl

theorem get_mem {α} {l : List (Mod × α)} {m : Mod} {v : α} (h : get l m = some v) : (m, v) ∈ l := by
  induction l with
  | nil => cases h
  | cons p r ih =>
    rw [get_cons] at h
    split at h
    · next hk => cases h; rw [← hk]; exact List.mem_cons_self
    · exact List.mem_cons_of_mem _ (ih h)

theorem get_filter_ne {α} (l : List (Mod × α)) {m k : Mod} (hk : k ≠ m) :
    get (l.filter (fun p => p.1 ≠ m)) k = get l k := by
  induction l with
  | nil => rfl
  | cons p r ih =>
    by_cases hp : p.1 = m
    · rw [List.filter_cons_of_neg (by simpa using hp), ih, get_cons, if_neg (hp ▸ Ne.symm hk)]
    · rw [List.filter_cons_of_pos (by simpa using hp), get_cons, get_cons, ih]

theorem get_updCached (st : St) (m k : Mod) (g : Cached → Cached) :
    get (updCached st m g).mcache k = (get st.mcache k).map (fun c => if k = m then g c else c) := by
  simp only [updCached]
  induction st.mcache with
  | nil => rfl
  | cons p r ih =>
    obtain ⟨a, v⟩ := p
    have : (if a = m then (a, g v) else (a, v)) = (a, if a = m then g v else v) := by split <;> rfl
    simp only [List.map_cons, this, get_cons]
    split
    · next h => subst h; rfl
    · exact ih

theorem lookup_eq_get : ∀ (c : Norm.Cache) (d : Norm.Dir), Norm.lookup c d = get c d
  | [], _ => rfl
  | (k, v) :: r, d => by simp only [Norm.lookup, get, lookup_eq_get r d]

theorem findRef_cons (key key' : Entry) (r : Option Target) (l) :
    findRef key ((key', r) :: l) = if key' = key then some r else findRef key l := rfl

/-- the modules whose presence or absence the state has recorded -/
def foot (st : St) (m : Mod) : Prop := (get st.mcache m).isSome = true ∨ m ∈ st.missing

def FMono (st st' : St) : Prop := ∀ m, foot st m → foot st' m

/-- nothing leaves `_norm_cache` -/
def NMono (st st' : St) : Prop :=
  ∀ root ps, Norm.lookup st.norm root = some ps → Norm.lookup st'.norm root = some ps

/-- the state has looked at more, and forgotten nothing it had looked at -/
structure Mono (st st' : St) : Prop where
  foot : FMono st st'
  norm : NMono st st'

theorem Mono.refl (st : St) : Mono st st := ⟨fun _ h => h, fun _ _ h => h⟩
theorem Mono.trans {a b c : St} (h1 : Mono a b) (h2 : Mono b c) : Mono a c :=
  ⟨fun m h => h2.foot m (h1.foot m h), fun r ps h => h2.norm r ps (h1.norm r ps h)⟩

/-- nothing is evicted from the module cache -/
def Keeps (st st' : St) : Prop := ∀ k, (get st.mcache k).isSome = true → (get st'.mcache k).isSome = true

theorem Keeps.refl (st : St) : Keeps st st := fun _ h => h
theorem Keeps.trans {a b c : St} (h1 : Keeps a b) (h2 : Keeps b c) : Keeps a c := fun k h => h2 k (h1 k h)

theorem Keeps.toMono {st st' : St} (hk : Keeps st st') (hm : ∀ k, k ∈ st.missing → k ∈ st'.missing)
    (hn : st'.norm = st.norm) : Mono st st' :=
  ⟨fun k h => h.imp (hk k) (hm k), fun _ _ h => hn ▸ h⟩

theorem addMissing_spec (st : St) (m : Mod) :
    ∃ ms, addMissing st m = { st with missing := ms } ∧ ∀ k, k ∈ ms ↔ k = m ∨ k ∈ st.missing := by
  unfold addMissing
  split
  · next h => exact ⟨st.missing, rfl, fun k => ⟨Or.inr, fun h' => h'.elim (· ▸ h) id⟩⟩
  · exact ⟨_, rfl, fun _ => List.mem_cons⟩

theorem mono_addMissing (st : St) (m : Mod) : Mono st (addMissing st m) := by
  obtain ⟨ms, e, hms⟩ := addMissing_spec st m
  rw [e]
  exact ⟨fun k h => h.imp_right fun h => (hms k).2 (Or.inr h), fun _ _ h => h⟩

theorem keeps_cons (st : St) (m : Mod) (c : Cached) : Keeps st { st with mcache := (m, c) :: st.mcache } := by
  intro k hk
  simp only [get_cons]
  split
  · rfl
  · exact hk

theorem load_none {D : Disk} {m : Mod} (h : get D m = none) (st : St) : load D st m = (false, addMissing st m) := by
  simp only [load, h]

theorem load_some {D : Disk} {m : Mod} {f : File} (h : get D m = some f) (st : St) :
    load D st m = (true, { st with mcache := (m, ⟨f.mtime, none, []⟩) :: st.mcache }) := by
  simp only [load, h]

theorem load_mono (D : Disk) (st : St) (m : Mod) : Mono st (load D st m).2 := by
  cases h : get D m with
  | none => rw [load_none h]; exact mono_addMissing st m
  | some f => rw [load_some h]; exact (keeps_cons st m _).toMono (fun _ h => h) rfl

theorem load_foot (D : Disk) (st : St) (m : Mod) : foot (load D st m).2 m := by
  cases h : get D m with
  | none =>
    obtain ⟨ms, e, hms⟩ := addMissing_spec st m
    rw [load_none h, e]; exact Or.inr ((hms m).2 (Or.inl rfl))
  | some f => rw [load_some h]; exact Or.inl (by simp [get_cons])

theorem load_frame (D : Disk) (st : St) (m : Mod) :
    (load D st m).2.norm = st.norm ∧ (load D st m).2.lt = st.lt ∧ (load D st m).2.legacyNorm = st.legacyNorm := by
  cases h : get D m with
  | none => obtain ⟨_, e, _⟩ := addMissing_spec st m; rw [load_none h, e]; exact ⟨rfl, rfl, rfl⟩
  | some f => rw [load_some h]; exact ⟨rfl, rfl, rfl⟩

theorem changedB_false {now : Option Nat} {c : Nat} : changedB false now c = false ↔ now = some c := by
  cases now with
  | none => simp [changedB]
  | some t => simpa [changedB] using eq_comm

theorem transparentOn_iff {v : Variant} {fuel : Nat} {D0 : Disk} {ops : List Op} :
    transparentOn v fuel D0 ops = true ↔
      ∀ r, r ∈ run v fuel (World.init v D0) ops → r.2.2 ≠ .recursion → fresh fuel r.1 r.2.1 ≠ .recursion →
        r.2.2 = fresh fuel r.1 r.2.1 := by
  simp only [transparentOn, List.all_eq_true, Bool.or_eq_true, decide_eq_true_eq]
  refine forall_congr' fun r => imp_congr_right fun _ => ?_
  by_cases h1 : r.2.2 = .recursion <;> by_cases h2 : fresh fuel r.1 r.2.1 = .recursion <;> simp [h1, h2]

end SuppModel.Proj
