/- Proj: `check_changes`, one request, whole histories — the invariant behind C09.  `R` is the disk of the last
   request: the state is good for it, and every edit since gave its file an mtime that `R` has not seen, so
   `check_changes` either notices the edit or the state is good for the present disk as well. -/
import SuppModel.Proj.Query

namespace SuppModel.Proj

variable {R D : Disk} {st : St} {fuel : Nat} {w : World} {seen : List (Mod × Nat)}

/-- the state is correct for every disk that has the same files wherever the state has looked -/
def Good (D : Disk) (st : St) : Prop := ∀ E, AgreeOn st D E → Correct E st

theorem good_empty (D : Disk) : Good D St.empty := fun E _ => correct_empty E

theorem good_cleared (h : st.lt = false) (h2 : st.legacyNorm = false) : Good D st.clearedAll :=
  fun E _ => correct_of_nil E _ rfl rfl rfl rfl h h2

/-- goodness is about the footprint only: it passes to any disk that agrees there -/
theorem Good.transfer (hg : Good R st) (h : AgreeOn st R D) : Good D st := fun E hag => hg E (h.trans hag)

/-- on two disks, a file with the same name and the same mtime is the same file -/
def SameByMtime (R D : Disk) : Prop :=
  ∀ m f f', get D m = some f → get R m = some f' → f.mtime = f'.mtime → f = f'

theorem sameByMtime_refl (D : Disk) : SameByMtime D D :=
  fun _ _ _ h1 h2 _ => Option.some.inj (h1.symm.trans h2)

theorem anyChanged_false (h : anyChanged D st = false) {m : Mod} {c : Cached}
    (hg : get st.mcache m = some c) : changedB st.lt (stat D m) c.mtime = false := by
  simpa using List.any_eq_false.1 h _ (get_mem hg)

theorem getModule_eq_false {s : St} {m : Mod} (h : getModule D st m = (false, s))
    (hch : anyChanged D st = false) :
    s = addMissing st m ∧ get D m = none := by
  unfold getModule at h
  split at h
  · cases h
  · split at h
    · next c hg => rw [anyChanged_false hch hg] at h; cases h
    · unfold load at h
      split at h
      · next hd => cases h; exact ⟨rfl, hd⟩
      · cases h

/-- `_appeared` discards each name and `get_module` adds it again on failure, so only the order of `_missing` changes -/
theorem appeared_false : ∀ (l : List Mod) (st s : St), appeared D l st = (false, s) →
    anyChanged D st = false →
    s = { st with missing := s.missing } ∧ (∀ k, k ∈ l → get D k = none) ∧
      ∀ k, k ∈ s.missing ↔ k ∈ st.missing ∨ k ∈ l
  | [], st, s, h, _ => by cases h; exact ⟨rfl, nofun, fun k => by simp⟩
  | m :: rest, st, s, h, hch => by
    simp only [appeared] at h
    split at h
    · cases h
    · next hgm =>
      obtain ⟨rfl, hno⟩ := getModule_eq_false hgm hch
      obtain ⟨ms, e, hms⟩ := addMissing_spec { st with missing := st.missing.filter (· ≠ m) } m
      rw [e] at h
      obtain ⟨h1, h2, h3⟩ := appeared_false rest _ s h hch
      refine ⟨h1, List.forall_mem_cons.2 ⟨hno, h2⟩, fun k => ?_⟩
      rw [h3, hms]
      by_cases e : k = m <;> simp [e]

theorem checkChanges_good (hg : Good R st) (hs : SameByMtime R D) :
    Good D (checkChanges .current D st) := by
  have hcR : Correct R st := hg R (AgreeOn.refl _ _)
  simp only [checkChanges, checkNow]
  split
  · exact good_cleared hcR.mode hcR.mode2
  · next hch =>
    have hch : anyChanged D st = false := Bool.eq_false_iff.2 hch
    split
    · exact good_cleared hcR.mode hcR.mode2
    · next s hap =>
      obtain ⟨hs', h2, h3⟩ := appeared_false _ _ _ hap hch
      rw [hs']
      split
      · exact good_cleared hcR.mode hcR.mode2
      · next hrn =>
        -- nothing was dropped, so the disk is like the reference disk wherever the state has looked
        have hRD : AgreeOn st R D := by
          refine ⟨fun m hf => ?_, fun root ps hl => ?_⟩
          · rcases hf with hf | hf
            · obtain ⟨c, hgm⟩ := Option.isSome_iff_exists.1 hf
              obtain ⟨f', hf', hmt⟩ := hcR.valid m c hgm
              have hst := changedB_false.1 (hcR.mode ▸ anyChanged_false hch hgm)
              obtain ⟨f, hd, hfm⟩ := Option.map_eq_some_iff.1 hst
              rw [hd, hf', hs m f f' hd hf' (hfm.trans hmt.symm)]
            · rw [h2 m hf, hcR.miss m hf]
          · rw [← hcR.norm root ps hl]
            simpa [pParts] using List.any_eq_false.1 (Bool.eq_false_iff.2 hrn) _ (get_mem (lookup_eq_get _ _ ▸ hl))
        intro E hag
        have hE : Correct E st := hg.transfer hRD E
          ⟨fun m hf => hag.files m (hf.imp_right fun hm => (h3 m).2 (Or.inl hm)), hag.parts⟩
        exact hE.update nofun (fun k hk => hE.miss k (((h3 k).1 hk).elim id id)) hE.norm

theorem request_den (fuel : Nat) (q : Query) (hg : Good R st) (hs : SameByMtime R D) :
    Good D (request .current fuel D st q).2 ∧
    ((request .current fuel D st q).1 ≠ .recursion → Ev (fun n => pQuery D n q) (request .current fuel D st q).1) := by
  have hg0 := checkChanges_good hg hs
  simp only [request]
  split
  · next a st' hrq =>
    have hst := runQuery_step (E := D) hrq
    exact ⟨fun E hag => ((runQuery_step hrq).post (hg0 E (hag.mono hst.mono)) hag trivial).1,
      fun _ => (hst.post (hg0 D (AgreeOn.refl _ _)) (AgreeOn.refl _ _) trivial).2.2⟩
  · exact ⟨hg0, fun h => absurd rfl h⟩

/-- the long-lived and the fresh project both compute what the disk denotes -/
theorem request_spec (fuel : Nat) (q : Query) (hg : Good R st) (hs : SameByMtime R D) :
    (request .current fuel D st q).1 ≠ .recursion → fresh fuel D q ≠ .recursion →
      (request .current fuel D st q).1 = fresh fuel D q :=
  fun h1 h2 => ((request_den fuel q hg hs).2 h1).unique
    ((request_den fuel q (good_empty D) (sameByMtime_refl D)).2 h2)

/-- every (file, mtime) pair of the disk has been recorded -/
def SeenIn (D : Disk) (seen : List (Mod × Nat)) : Prop := ∀ m f, get D m = some f → (m, f.mtime) ∈ seen

theorem seenIn_seenOf (D : Disk) : SeenIn D (seenOf D) :=
  fun m f hg => List.mem_map.2 ⟨(m, f), get_mem hg, rfl⟩

theorem SeenIn.cons (h : SeenIn D seen) (p : Mod × Nat) : SeenIn D (p :: seen) :=
  fun m f hg => List.mem_cons_of_mem _ (h m f hg)

/-- what holds of the world between any two operations of a history; `seen` = the (file, mtime) pairs so far -/
structure Inv (w : World) (seen : List (Mod × Nat)) : Prop where
  ref : ∃ R, Good R w.st ∧ SameByMtime R w.disk ∧ SeenIn R seen
  cur : SeenIn w.disk seen

theorem inv_init (D : Disk) : Inv (World.init .current D) (seenOf D) :=
  ⟨⟨D, good_empty D, sameByMtime_refl D, seenIn_seenOf D⟩, seenIn_seenOf D⟩

/-- a file written with an mtime it never had differs by mtime from every file the reference disk has -/
theorem inv_write (hi : Inv w seen) (m : Mod) (t : Nat) (src : Src)
    (hfresh : (m, t) ∉ seen) :
    Inv { w with disk := (m, ⟨t, src⟩) :: w.disk } ((m, t) :: seen) := by
  obtain ⟨⟨R, hg, hs, hR⟩, hD⟩ := hi
  refine ⟨⟨R, hg, fun k f f' h1 h2 hmt => ?_, hR.cons _⟩, fun k f hk => ?_⟩
  · rw [get_cons] at h1
    split at h1
    · next e => cases h1; subst e; exact absurd ((show t = f'.mtime from hmt) ▸ hR m f' h2) hfresh
    · exact hs k f f' h1 h2 hmt
  · rw [get_cons] at hk
    split at hk
    · next e => cases hk; subst e; exact List.mem_cons_self
    · exact List.mem_cons_of_mem _ (hD k f hk)

theorem inv_skip (hi : Inv w seen) (p : Mod × Nat) : Inv w (p :: seen) :=
  have ⟨R, h1, h2, h3⟩ := hi.ref
  ⟨⟨R, h1, h2, h3.cons _⟩, hi.cur.cons _⟩

theorem inv_request (hi : Inv w seen) (q : Query) :
    Inv (step .current fuel w (.request q)).1 seen :=
  have ⟨_, hg, hs, _⟩ := hi.ref
  ⟨⟨w.disk, (request_den fuel q hg hs).1, sameByMtime_refl _, hi.cur⟩, hi.cur⟩

theorem fresh_edit {p : Mod × Nat} {ops : List Op}
    (h : (!seen.contains p && freshMtimes (p :: seen) ops) = true) : p ∉ seen ∧ freshMtimes (p :: seen) ops = true := by
  simpa using h

theorem inv_step {op : Op} {ops : List Op} (hi : Inv w seen)
    (hfr : freshMtimes seen (op :: ops) = true) :
    ∃ seen', Inv (step .current fuel w op).1 seen' ∧ freshMtimes seen' ops = true := by
  cases op with
  | write m t src => exact ⟨_, inv_write hi m t src (fresh_edit hfr).1, (fresh_edit hfr).2⟩
  | touch m t =>
    simp only [step]
    split
    · exact ⟨_, inv_skip hi _, (fresh_edit hfr).2⟩
    · exact ⟨_, inv_write hi m t _ (fresh_edit hfr).1, (fresh_edit hfr).2⟩
  | request q => exact ⟨seen, inv_request hi q, hfr⟩

theorem inv_exec : ∀ (ops : List Op) {w : World} {seen}, Inv w seen →
    freshMtimes seen ops = true → ∃ seen', Inv (exec .current fuel w ops) seen'
  | [], _, seen, hi, _ => ⟨seen, hi⟩
  | _ :: ops, _, _, hi, hfr => have ⟨_, hi', hfr'⟩ := inv_step hi hfr; inv_exec ops hi' hfr'

theorem mem_run_cons {v : Variant} {fuel : Nat} {w : World} {op : Op} {ops : List Op} {r}
    (h : r ∈ run v fuel w (op :: ops)) :
    (∃ q, op = .request q ∧ r = (w.disk, q, (request v fuel w.disk w.st q).1)) ∨
      r ∈ run v fuel (step v fuel w op).1 ops := by
  cases op with
  | write m t src => exact .inr h
  | touch m t =>
    rw [run] at h
    cases hg : get w.disk m <;> rw [step, hg] at h ⊢ <;> exact .inr h
  | request q => exact (List.mem_cons.1 h).imp (fun e => ⟨q, rfl, e⟩) id

theorem run_transparent : ∀ (ops : List Op) {w : World} {seen}, Inv w seen →
    freshMtimes seen ops = true →
    ∀ r, r ∈ run .current fuel w ops → r.2.2 ≠ .recursion → fresh fuel r.1 r.2.1 ≠ .recursion →
      r.2.2 = fresh fuel r.1 r.2.1
  | [], _, _, _, _, r, hr => nomatch hr
  | op :: ops, w, seen, hi, hfr, r, hr => by
    rcases mem_run_cons hr with ⟨q, rfl, rfl⟩ | hr
    · obtain ⟨R, hg, hs, _⟩ := hi.ref
      exact request_spec fuel q hg hs
    · obtain ⟨_, hi', hfr'⟩ := inv_step (fuel := fuel) hi hfr
      exact run_transparent ops hi' hfr' r hr

end SuppModel.Proj
