/- Proj: what it means for a project state to be correct for a disk (`Correct`), the form in which every operation
   of the model is shown to keep it so (`Step`), and the steps of `load`, `getModule`, `normRef`, `updCached`. -/
import SuppModel.Proj.State

namespace SuppModel.Proj

variable {D E : Disk} {st st' : St} {m : Mod} {α : Type} {f : Nat → Except Err α} {a : α}

/-- `E` has the same files as `D` wherever the state has looked -/
structure AgreeOn (st : St) (D E : Disk) : Prop where
  files : ∀ m, foot st m → get E m = get D m
  /-- and every directory in `_norm_cache` has the same package path on both -/
  parts : ∀ root ps, Norm.lookup st.norm root = some ps → pParts E root = pParts D root

theorem AgreeOn.refl (st : St) (D : Disk) : AgreeOn st D D := ⟨fun _ _ => rfl, fun _ _ _ => rfl⟩

theorem AgreeOn.trans {F : Disk} (h1 : AgreeOn st D E) (h2 : AgreeOn st E F) : AgreeOn st D F :=
  ⟨fun m hf => (h2.files m hf).trans (h1.files m hf), fun r ps hl => (h2.parts r ps hl).trans (h1.parts r ps hl)⟩

theorem AgreeOn.mono (h : AgreeOn st' D E) (hm : Mono st st') : AgreeOn st D E :=
  ⟨fun m hf => h.files m (hm.foot m hf), fun r ps hl => h.parts r ps (hm.norm r ps hl)⟩

/-- `f n` is `a` for every large enough recursion depth -/
def Ev {α : Type} (f : Nat → Except Err α) (a : α) : Prop := ∃ N, ∀ n, N ≤ n → f n = .ok a

/-- `Ev f a` unfolds to `Eventually fun n => f n = .ok a` -/
def Eventually (p : Nat → Prop) : Prop := ∃ N, ∀ n, N ≤ n → p n

theorem Eventually.and {p q : Nat → Prop} (hp : Eventually p) (hq : Eventually q) : Eventually fun n => p n ∧ q n := by
  obtain ⟨N, hN⟩ := hp
  obtain ⟨M, hM⟩ := hq
  exact ⟨max N M, fun n hn => ⟨hN n (Nat.max_le.1 hn).1, hM n (Nat.max_le.1 hn).2⟩⟩

theorem Eventually.mono {p q : Nat → Prop} (hp : Eventually p) (h : ∀ n, p n → q n) : Eventually q :=
  hp.imp fun _ hN n hn => h n (hN n hn)

theorem Ev.const (h : ∀ n, f n = .ok a) : Ev f a := ⟨0, fun n _ => h n⟩

theorem Ev.map {γ : Type} {k : Nat → Except Err γ} {c} (hf : Ev f a)
    (h : ∀ n, f n = .ok a → k n = .ok c) : Ev k c :=
  Eventually.mono hf h

theorem Ev.map₂ {β γ : Type} {g : Nat → Except Err β} {k : Nat → Except Err γ} {b c}
    (hf : Ev f a) (hg : Ev g b) (h : ∀ n, f n = .ok a → g n = .ok b → k n = .ok c) : Ev k c :=
  (Eventually.and hf hg).mono fun n ⟨h1, h2⟩ => h n h1 h2

theorem Ev.unique {b : α} (ha : Ev f a) (hb : Ev f b) : a = b := by
  obtain ⟨N, hN⟩ := Eventually.and ha hb
  obtain ⟨h1, h2⟩ := hN N (Nat.le_refl N)
  exact Except.ok.inj (h1.symm.trans h2)

theorem Ev.of_succ (h : Ev (fun n => f (n + 1)) a) : Ev f a := by
  obtain ⟨N, hN⟩ := h
  exact ⟨N + 1, fun n hn => by cases n with
    | zero => omega
    | succ n => exact hN n (by omega)⟩

theorem ev_shift {α : Type} {f : Nat → Except Err α} {a : α} (h : Ev f a) : Ev (fun n => f (n + 1)) a :=
  h.imp fun _ hN n hn => hN (n + 1) (Nat.le_succ_of_le hn)

theorem pTable_none (h : get E m = none) (n : Nat) : pTable E n m = .ok none := by
  cases n <;> simp only [pTable, h]

/-- every cached value is what the memo-free reading of disk `E` gives -/
structure Correct (E : Disk) (st : St) : Prop where
  valid : ∀ m c, get st.mcache m = some c → ∃ f, get E m = some f ∧ f.mtime = c.mtime
  miss : ∀ m, m ∈ st.missing → get E m = none
  ctx : ∀ m, m ∈ st.ctx → (get st.mcache m).isSome = true
  table : ∀ m c t, get st.mcache m = some c → c.table = some t → Ev (fun n => pTable E n m) (some t)
  refs : ∀ m c x ln k mn r, get st.mcache m = some c → findRef (.imp x ln k mn) c.refs = some r →
    Ev (fun n => pResolve E n k mn) r
  /-- a module object held by a memo is still the one in the module cache -/
  modIn : ∀ m c key k, get st.mcache m = some c → findRef key c.refs = some (some (.module k)) →
    (get st.mcache k).isSome = true
  /-- memos of relative imports: the name is normalised from the directory of the module's own file -/
  refsR : ∀ m c x ln up k mn r, get st.mcache m = some c → findRef (.rimp x ln up k mn) c.refs = some r →
    Ev (fun n => pResolveR E n (dirOf (some m)) up k mn) r
  /-- `_norm_cache` holds the package path of each directory it has an entry for -/
  norm : ∀ root ps, Norm.lookup st.norm root = some ps → ps = pParts E root
  /-- `changed` is `!=` and `norm_package` caches empty results, as in the code -/
  mode : st.lt = false
  mode2 : st.legacyNorm = false

def TargetIn (st : St) : Option Target → Prop
  | some (.module k) => (get st.mcache k).isSome = true
  | _ => True

theorem TargetIn.keeps {r : Option Target} (h : TargetIn st r) (hk : Keeps st st') : TargetIn st' r := by
  cases r with
  | some t => cases t with
    | module k => exact hk k h
    | entry k e => trivial
  | none => trivial

def KeyEv (E : Disk) (o : Option Mod) : Entry → Option Target → Prop
  | .own _ _ _, _ => True
  | .imp _ _ m mn, r => Ev (fun n => pResolve E n m mn) r
  | .rimp _ _ up m mn, r => Ev (fun n => pResolveR E n (dirOf o) up m mn) r

/-- what `Correct` asks of one entry of the module cache -/
structure CachedOK (E : Disk) (st : St) (m : Mod) (c : Cached) : Prop where
  valid : ∃ f, get E m = some f ∧ f.mtime = c.mtime
  table : ∀ t, c.table = some t → Ev (fun n => pTable E n m) (some t)
  memo : ∀ key r, findRef key c.refs = some r → KeyEv E (some m) key r ∧ TargetIn st r

theorem CachedOK.keeps {c : Cached} (h : CachedOK E st m c) (hk : Keeps st st') :
    CachedOK E st' m c :=
  ⟨h.valid, h.table, fun key r hr => ⟨(h.memo key r hr).1, (h.memo key r hr).2.keeps hk⟩⟩

theorem Correct.cached {c : Cached} (hc : Correct E st) (h : get st.mcache m = some c) :
    CachedOK E st m c := by
  refine ⟨hc.valid m c h, fun t => hc.table m c t h, fun key r hr => ⟨?_, ?_⟩⟩
  · cases key with
    | own x ln p => trivial
    | imp x ln k mn => exact hc.refs m c x ln k mn r h hr
    | rimp x ln up k mn => exact hc.refsR m c x ln up k mn r h hr
  · cases r with
    | none => trivial
    | some t => cases t with
      | module k => exact hc.modIn m c key k h hr
      | entry k e => trivial

theorem Correct.of_cached (h : ∀ m c, get st.mcache m = some c → CachedOK E st m c)
    (miss : ∀ m, m ∈ st.missing → get E m = none) (ctx : ∀ m, m ∈ st.ctx → (get st.mcache m).isSome = true)
    (norm : ∀ root ps, Norm.lookup st.norm root = some ps → ps = pParts E root)
    (mode : st.lt = false) (mode2 : st.legacyNorm = false) : Correct E st :=
  ⟨fun m c hm => (h m c hm).valid, miss, ctx, fun m c t hm => (h m c hm).table t,
   fun m c _ _ _ _ r hm hr => ((h m c hm).memo _ r hr).1, fun m c key _ hm hr => ((h m c hm).memo key _ hr).2,
   fun m c _ _ _ _ _ r hm hr => ((h m c hm).memo _ r hr).1, norm, mode, mode2⟩

/-- `Correct` reads `ctx`, `missing` and `norm` through their members only -/
theorem Correct.update (hc : Correct E st) {ctx missing norm}
    (hctx : ∀ k, k ∈ ctx → (get st.mcache k).isSome = true) (hmiss : ∀ k, k ∈ missing → get E k = none)
    (hnorm : ∀ root ps, Norm.lookup norm root = some ps → ps = pParts E root) :
    Correct E { st with ctx := ctx, missing := missing, norm := norm } :=
  Correct.of_cached (fun _ _ h => (hc.cached h).keeps fun _ h => h) hmiss hctx hnorm hc.mode hc.mode2

theorem correct_ctx_nil {E : Disk} {st : St} (h : Correct E st) : Correct E { st with ctx := [] } :=
  h.update nofun h.miss h.norm

theorem correct_of_nil (E : Disk) (st : St) (h1 : st.mcache = []) (h2 : st.missing = []) (h3 : st.ctx = [])
    (h4 : st.norm = []) (mode : st.lt = false) (mode2 : st.legacyNorm = false) : Correct E st :=
  Correct.of_cached (by simp [h1]) (by simp [h2]) (by simp [h3]) (by simp [h4, Norm.lookup]) mode mode2

theorem correct_empty (E : Disk) : Correct E St.empty := correct_of_nil E _ rfl rfl rfl rfl rfl rfl

/-- One operation of the model, run on disk `D`, took `st` to `st'`: the footprint has only grown; and if `st`
    was correct for `E`, `P` held, and `E` agrees with `D` on the footprint of `st'` (so on everything the
    operation has looked at), then `st'` is correct for `E`, nothing was evicted, and `Q` holds. -/
structure Step (D E : Disk) (st st' : St) (P Q : Prop) : Prop where
  mono : Mono st st'
  post : Correct E st → AgreeOn st' D E → P → Correct E st' ∧ Keeps st st' ∧ Q

theorem Step.refl {P Q : Prop} (h : Correct E st → P → Q) : Step D E st st P Q :=
  ⟨Mono.refl st, fun hc _ hp => ⟨hc, Keeps.refl st, h hc hp⟩⟩

/-- agreement on the last footprint gives agreement on the one in between, since footprints only grow -/
theorem Step.trans {a b c : St} {P Q P' R S : Prop} (h1 : Step D E a b P Q) (h2 : Step D E b c P' R)
    (h : Q → P' ∧ (R → S)) : Step D E a c P S :=
  ⟨h1.mono.trans h2.mono, fun hc hag hp =>
    have ⟨hc1, hk1, hq⟩ := h1.post hc (hag.mono h2.mono) hp
    have ⟨hc2, hk2, hr⟩ := h2.post hc1 hag (h hq).1
    ⟨hc2, hk1.trans hk2, (h hq).2 hr⟩⟩

theorem Step.mp {a b : St} {P Q Q' : Prop} (h : Step D E a b P Q) (hQ : Q → Q') : Step D E a b P Q' :=
  h.trans (Step.refl fun _ => hQ) fun hq => ⟨hq, id⟩

def Loaded (E : Disk) (st' : St) (m : Mod) : Bool → Prop
  | true => (get st'.mcache m).isSome = true ∧ ∃ f, get E m = some f
  | false => get E m = none

theorem Correct.onDisk (hc : Correct E st) (h : (get st.mcache m).isSome = true) :
    ∃ f, get E m = some f := by
  obtain ⟨c, hg⟩ := Option.isSome_iff_exists.1 h
  obtain ⟨f, hf, _⟩ := hc.valid m c hg
  exact ⟨f, hf⟩

theorem load_grows {b : Bool} (h : load D st m = (b, st')) : Mono st st' ∧ foot st' m := by
  have := And.intro (load_mono D st m) (load_foot D st m)
  rwa [h] at this

theorem load_step {b : Bool} (h : load D st m = (b, st')) :
    Step D E st st' True (Loaded E st' m b) := by
  obtain ⟨hmono, hfoot⟩ := load_grows h
  refine ⟨hmono, fun hc hag _ => ?_⟩
  have hE := hag.files m hfoot
  cases hd : get D m with
  | none =>
    obtain ⟨ms, e, hms⟩ := addMissing_spec st m
    rw [load_none hd, e] at h; cases h
    exact ⟨hc.update hc.ctx (fun k hk => ((hms k).1 hk).elim (· ▸ hE.trans hd) (hc.miss k)) hc.norm,
      fun _ h => h, hE.trans hd⟩
  | some f =>
    rw [load_some hd] at h; cases h
    refine ⟨Correct.of_cached (fun k c hk => ?_) hc.miss (fun k hk => keeps_cons st m _ k (hc.ctx k hk)) hc.norm
      hc.mode hc.mode2, keeps_cons st m _, by simp [get_cons], f, hE.trans hd⟩
    rw [get_cons] at hk
    split at hk
    · next e => cases hk; subst e; exact ⟨⟨f, hE.trans hd, rfl⟩, fun _ => nofun, fun _ _ => nofun⟩
    · exact (hc.cached hk).keeps (keeps_cons st m _)

theorem getModule_step {b : Bool} (h : getModule D st m = (b, st')) :
    Step D E st st' True (Loaded E st' m b) := by
  unfold getModule at h
  split at h
  · next hctx => cases h; exact Step.refl fun hc _ => ⟨hc.ctx m hctx, hc.onDisk (hc.ctx m hctx)⟩
  · split at h
    · next c hg =>
      split at h
      · -- a cached module that has changed is loaded again; in a correct state on an agreeing disk none has
        next hch =>
        obtain ⟨hl, hf⟩ := load_grows h
        refine ⟨⟨fun k hk => ?_, hl.norm⟩, fun hc hag _ => ?_⟩
        · by_cases e : k = m
          · exact e ▸ hf
          · exact hl.foot k (hk.imp_left fun hk => (get_filter_ne st.mcache e).symm ▸ hk)
        · obtain ⟨f, hf', hmt⟩ := (hc.cached hg).valid
          have : stat D m = some c.mtime := by rw [stat, ← hag.files m hf, hf']; exact congrArg some hmt
          rw [hc.mode, changedB_false.2 this] at hch; cases hch
      · cases h
        have hin : (get st.mcache m).isSome = true := by rw [hg]; rfl
        exact ⟨⟨fun _ h => h, fun _ _ h => h⟩, fun hc _ _ =>
          ⟨hc.update (fun k hk => (List.mem_cons.1 hk).elim (· ▸ hin) (hc.ctx k)) hc.miss hc.norm,
           fun _ h => h, hin, hc.onDisk hin⟩⟩
    · exact load_step h

theorem getModule_true (h : getModule D st m = (true, st')) :
    Step D E st st' True ((get st'.mcache m).isSome = true ∧ ∃ f, get E m = some f) := getModule_step h

theorem getModule_false (h : getModule D st m = (false, st')) :
    Step D E st st' True (get E m = none) := getModule_step h

theorem getModule_frame (D : Disk) (st : St) (m : Mod) :
    (getModule D st m).2.norm = st.norm ∧ (getModule D st m).2.lt = st.lt ∧
    (getModule D st m).2.legacyNorm = st.legacyNorm := by
  unfold getModule
  split
  · exact ⟨rfl, rfl, rfl⟩
  · split
    · split
      · exact load_frame D _ m
      · exact ⟨rfl, rfl, rfl⟩
    · exact load_frame D st m

theorem normRef_eq (D : Disk) (st : St) (dir : Mod) (up : Nat) (m : Mod) :
    normRef D st dir up m =
      match Norm.lookup st.norm (Norm.dropLastN up dir) with
      | some ps => (if ps.isEmpty then none else some (ps ++ m), st)
      | none =>
        (pNorm D dir up m,
         { st with norm := if (pParts D (Norm.dropLastN up dir)).isEmpty && st.legacyNorm then st.norm
                           else (Norm.dropLastN up dir, pParts D (Norm.dropLastN up dir)) :: st.norm }) := by
  cases h : Norm.lookup st.norm (Norm.dropLastN up dir) <;>
    simp only [normRef, Norm.normPackage, Nat.add_sub_cancel, Bool.not_not, h] <;> rfl

theorem normRef_step {dir : Mod} {up : Nat} {r : Option Mod}
    (h : normRef D st dir up m = (r, st')) : Step D E st st' True (r = pNorm E dir up m) := by
  rw [normRef_eq] at h
  split at h
  · next ps hl =>
    cases h
    exact Step.refl fun hc _ => by rw [pNorm, ← hc.norm _ _ hl]
  · next hl =>
    cases h
    split
    · next hb =>
      exact ⟨⟨fun _ h => h, fun _ _ h => h⟩, fun hc _ _ => by rw [hc.mode2, Bool.and_false] at hb; cases hb⟩
    · refine ⟨⟨fun _ h => h, fun root ps h => ?_⟩, fun hc hag _ => ?_⟩
      · rw [Norm.lookup]
        split
        · next e => rw [e, h] at hl; cases hl
        · exact h
      · have hED : pParts E (Norm.dropLastN up dir) = pParts D (Norm.dropLastN up dir) :=
          hag.parts _ _ (by rw [Norm.lookup, if_pos rfl])
        refine ⟨hc.update hc.ctx hc.miss fun root ps hlk => ?_, fun _ h => h, by rw [pNorm, pNorm, hED]⟩
        rw [Norm.lookup] at hlk
        split at hlk
        · next e => cases hlk; rw [← e, hED]
        · exact hc.norm root ps hlk

theorem keeps_updCached (st : St) (m : Mod) (g : Cached → Cached) : Keeps st (updCached st m g) :=
  fun k hk => by rw [get_updCached, Option.isSome_map]; exact hk

theorem updCached_mono (st : St) (m : Mod) (g : Cached → Cached) : Mono st (updCached st m g) :=
  (keeps_updCached st m g).toMono (fun _ h => h) rfl

theorem correct_updCached {g : Cached → Cached} (hc : Correct E st)
    (hg : ∀ c, get st.mcache m = some c → CachedOK E st m (g c)) : Correct E (updCached st m g) := by
  have hk := keeps_updCached st m g
  refine Correct.of_cached (fun k c' hk' => ?_) hc.miss (fun k h => hk k (hc.ctx k h)) hc.norm hc.mode hc.mode2
  rw [get_updCached] at hk'
  obtain ⟨c, hc0, rfl⟩ := Option.map_eq_some_iff.1 hk'
  split
  · next e => subst e; exact (hg c hc0).keeps hk
  · exact (hc.cached hc0).keeps hk

end SuppModel.Proj
