/- Proj: analysing a module (`build`, `scopeOf`), resolving an imported name (`resolveCore`, `resolve`, `resolveR`)
   and following a chain of them (`follow`) are steps that compute what the memo-free reading of the disk says. -/
import SuppModel.Proj.Correct

namespace SuppModel.Proj

/-- what `build` does with a star import once the module's name `m'` is known; the names become the entries `mk x` -/
def starK (D : Disk) (dir : Mod) (scope : St → Mod → Except Err (Option Table × St)) (st : St) (m' : Mod)
    (mk : Ident → Entry) (r : Src) (ln : Nat) (acc : Table) : Except Err (Table × St) :=
  match getModule D st m' with
  | (false, st1) => build D dir scope st1 r (ln + 1) acc
  | (true, st1) =>
    match scope st1 m' with
    | .error e => .error e
    | .ok (none, st2) => build D dir scope st2 r (ln + 1) acc
    | .ok (some t, st2) =>
      build D dir scope st2 r (ln + 1) (acc ++ ((exportedNames t).filter (fun x => !hidden x)).map mk)

/-- the same in `pBuild` -/
def pStarK (E : Disk) (dir : Mod) (scope : Mod → Except Err (Option Table)) (m' : Mod) (mk : Ident → Entry)
    (r : Src) (ln : Nat) (acc : Table) : Except Err Table :=
  match scope m' with
  | .error e => .error e
  | .ok none => pBuild E dir scope r (ln + 1) acc
  | .ok (some t) => pBuild E dir scope r (ln + 1) (acc ++ ((exportedNames t).filter (fun x => !hidden x)).map mk)

variable {D E : Disk} {n : Nat} {st st' : St}

def ScopeStep (D E : Disk) (scope : St → Mod → Except Err (Option Table × St)) : Prop :=
  ∀ st k r st', scope st k = .ok (r, st') →
    Step D E st st' ((get st.mcache k).isSome = true) (Ev (fun n => pTable E n k) r)

def BuildStep (D E : Disk) (dir : Mod) (scope : St → Mod → Except Err (Option Table × St)) (src : Src) : Prop :=
  ∀ st ln acc t st', build D dir scope st src ln acc = .ok (t, st') →
    Step D E st st' True (Ev (fun n => pBuild E dir (pTable E n) src ln acc) t)

/-- a module that `getModule` has found is cached, so it can be analysed -/
theorem ScopeStep.after {scope} (hs : ScopeStep D E scope) {st1 : St} {m : Mod} {r}
    (hgm : getModule D st m = (true, st1)) (hsc : scope st1 m = .ok (r, st')) :
    Step D E st st' True (Ev (fun n => pTable E n m) r) :=
  (getModule_true hgm).trans (hs _ _ _ _ hsc) fun hin => ⟨hin.1, id⟩

theorem starK_step {dir : Mod} {scope} {r : Src} (hs : ScopeStep D E scope) (ih : BuildStep D E dir scope r)
    {m' : Mod} {mk : Ident → Entry} {ln : Nat} {acc t : Table}
    (h : starK D dir scope st m' mk r ln acc = .ok (t, st')) :
    Step D E st st' True (Ev (fun n => pStarK E dir (pTable E n) m' mk r ln acc) t) := by
  unfold starK at h
  split at h
  · next hgm =>
    exact (getModule_false hgm).trans (ih _ _ _ _ _ h) fun hno => ⟨trivial, fun hb => hb.map fun n hn => by
      simp only [pStarK, pTable_none hno]; exact hn⟩
  · next hgm =>
    split at h
    · cases h
    all_goals
      next hsc =>
      exact (hs.after hgm hsc).trans (ih _ _ _ _ _ h) fun hev => ⟨trivial, fun hb =>
        hev.map₂ hb fun n h1 h2 => by simp only [pStarK, h1]; exact h2⟩

theorem build_step {dir : Mod} {scope} (hs : ScopeStep D E scope) (src : Src) : BuildStep D E dir scope src := by
  induction src with
  | nil => intro _ _ _ _ _ h; cases h; exact Step.refl fun _ _ => Ev.const fun _ => rfl
  | cons it r ih =>
    intro st ln acc t st' h
    cases it with
    | star m => exact starK_step hs ih h
    | rstar up m =>
      unfold build at h
      split at h
      · next hnr =>
        exact (normRef_step hnr).trans (ih _ _ _ _ _ h) fun hpn => ⟨trivial, fun hev => hev.map fun n hn => by
          simp only [pBuild, ← hpn]; exact hn⟩
      · next hnr =>
        exact (normRef_step hnr).trans (starK_step hs ih h) fun hpn => ⟨trivial, fun hev =>
          hev.map fun n hn => by simp only [pBuild, ← hpn]; exact hn⟩
    | _ => exact ih _ _ _ _ _ h

/-- a module in the cache has the same file on both disks -/
theorem cached_step {k : Mod} :
    Step D E st st ((get st.mcache k).isSome = true) (get E k = get D k ∧ ∃ f, get E k = some f) :=
  ⟨Mono.refl st, fun hc hag hin => ⟨hc, Keeps.refl st, hag.files k (Or.inl hin), hc.onDisk hin⟩⟩

theorem updCached_step {k : Mod} {g : Cached → Cached} :
    Step D E st (updCached st k g) (∀ c, CachedOK E st k c → CachedOK E st k (g c)) True :=
  ⟨updCached_mono st k g, fun hc _ hg =>
    ⟨correct_updCached hc fun c h => hg c (hc.cached h), keeps_updCached st k g, trivial⟩⟩

theorem scopeOf_step (n : Nat) : ScopeStep D E (scopeOf D n) := by
  induction n with
  | zero => exact fun _ _ _ _ h => nomatch h
  | succ n ih =>
    intro st k r st' h
    unfold scopeOf at h
    split at h
    · next hg => cases h; exact Step.refl fun _ hin => by rw [hg] at hin; cases hin
    · next c hg =>
      split at h
      · next t ht => cases h; exact Step.refl fun hc _ => hc.table k c t hg ht
      · split at h
        · next hd => cases h; exact cached_step.mp fun ⟨hE, f, hf⟩ => by rw [hE, hd] at hf; cases hf
        · next f hd =>
          split at h
          · cases h
          · next t st1 hb =>
            cases h
            exact Step.trans (cached_step.trans (build_step ih f.src st 1 [] t st1 hb) fun ⟨hE, _⟩ => ⟨trivial, fun hb =>
              Ev.of_succ (hb.map fun n hn => by simp only [pTable, hE.trans hd, hn])⟩) updCached_step
              fun hev => ⟨fun c h => ⟨h.valid, fun _ ht => by cases ht; exact hev, h.memo⟩, fun _ => hev⟩

variable {m : Mod} {mn : Option Ident} {o : Option Mod} {r : Option Target}

theorem resolveCore_step (h : resolveCore D n st m mn = .ok (r, st')) :
    Step D E st st' True (Ev (fun n => pResolve E n m mn) r ∧ TargetIn st' r) := by
  unfold resolveCore at h
  split at h
  · split at h
    · next h1 =>
      cases h
      exact (getModule_true h1).mp fun ⟨hin, f, hf⟩ => ⟨Ev.const fun _ => by simp only [pResolve, hf], hin⟩
    · next h1 =>
      cases h
      exact (getModule_false h1).mp fun hno => ⟨Ev.const fun _ => by simp only [pResolve, hno], trivial⟩
  · next a =>
    split at h
    · next h1 =>
      cases h
      exact (getModule_true h1).mp fun ⟨hin, f, hf⟩ => ⟨Ev.const fun _ => by simp only [pResolve, hf], hin⟩
    · next h1 =>
      have s1 := getModule_false (E := E) h1
      split at h
      · next h2 =>
        cases h
        exact s1.trans (getModule_false h2) fun hno1 => ⟨trivial, fun hno2 =>
          ⟨Ev.const fun n => by simp only [pResolve, hno1, pTable_none hno2], trivial⟩⟩
      · next h2 =>
        split at h
        · cases h
        · next hsc =>
          cases h
          exact s1.trans ((scopeOf_step n).after h2 hsc) fun hno1 => ⟨trivial, fun hev =>
            ⟨hev.map fun n hn => by simp only [pResolve, hno1, hn], trivial⟩⟩
        · next t _ hsc =>
          cases h
          exact s1.trans ((scopeOf_step n).after h2 hsc) fun hno1 => ⟨trivial, fun hev =>
            ⟨hev.map fun n hn => by simp only [pResolve, hno1, hn], by cases lookupLast a t <;> trivial⟩⟩

theorem memoLookup_step {key : Entry}
    (h : memoLookup st o key = some r) : Step D E st st True (KeyEv E o key r ∧ TargetIn st r) := by
  refine Step.refl fun hc _ => ?_
  unfold memoLookup at h
  split at h
  · cases h
  · split at h
    · cases h
    · next c hg => exact (hc.cached hg).memo key r h

theorem memoStore_step {key : Entry} :
    Step D E st (memoStore st o key r) (KeyEv E o key r ∧ TargetIn st r)
      (KeyEv E o key r ∧ TargetIn (memoStore st o key r) r) := by
  cases o with
  | none => exact Step.refl fun _ => id
  | some o =>
    simp only [memoStore]
    refine (Step.refl fun _ => id).trans updCached_step fun hp =>
      ⟨fun c h => ⟨h.valid, h.table, fun key' r' hr' => ?_⟩, fun _ => ⟨hp.1, hp.2.keeps (keeps_updCached _ _ _)⟩⟩
    rw [findRef_cons] at hr'
    split at hr'
    · next e => cases hr'; exact e ▸ hp
    · exact h.memo key' r' hr'

theorem resolve_step {x ln} (h : resolve D n st o (.imp x ln m mn) m mn = .ok (r, st')) :
    Step D E st st' True (Ev (fun n => pResolve E n m mn) r ∧ TargetIn st' r) := by
  unfold resolve at h
  split at h
  · next hml => cases h; exact memoLookup_step hml
  · split at h
    · cases h
    · next hrc => cases h; exact (resolveCore_step hrc).trans memoStore_step fun hq => ⟨hq, id⟩

theorem resolveR_step {x ln up} (h : resolveR D n st o (.rimp x ln up m mn) up m mn = .ok (r, st')) :
    Step D E st st' True (Ev (fun n => pResolveR E n (dirOf o) up m mn) r ∧ TargetIn st' r) := by
  unfold resolveR at h
  split at h
  · next hml => cases h; exact memoLookup_step hml
  · split at h
    · next st0 hnr =>
      cases h
      exact (normRef_step hnr).trans memoStore_step fun hpn =>
        ⟨⟨Ev.const fun n => by simp only [pResolveR, ← hpn], trivial⟩, id⟩
    · next m' st0 hnr =>
      split at h
      · cases h
      · next r1 st1 hrc =>
        cases h
        exact Step.trans ((normRef_step hnr).trans (resolveCore_step hrc) fun hpn => ⟨trivial, fun ⟨hev, hin⟩ =>
          ⟨hev.map fun n hn => by simp only [pResolveR, ← hpn]; exact hn, hin⟩⟩) memoStore_step fun hq => ⟨hq, id⟩

/-- a module value is backed by an entry of the module cache -/
def ValIn (st : St) : Val → Prop
  | .module k => (get st.mcache k).isSome = true
  | _ => True

theorem ValIn.keeps {st st' : St} {v : Val} (h : ValIn st v) (hk : Keeps st st') : ValIn st' v := by
  cases v with
  | module k => exact hk k h
  | _ => trivial

/-- what `follow` does with the outcome of resolving an imported name -/
def followK (D : Disk) (n : Nat) (o : Option Mod) (ln : Nat) :
    Except Err (Option Target × St) → Except Err ((List Loc × Val) × St)
  | .error e => .error e
  | .ok (none, st1) => .ok (([(o, ln)], .nothing), st1)
  | .ok (some (.module k), st1) => .ok (([(o, ln), (some k, 1)], .module k), st1)
  | .ok (some (.entry k e), st1) =>
    match follow D n st1 (some k) e with
    | .error e => .error e
    | .ok ((tr, v), st2) => .ok (((o, ln) :: tr, v), st2)

/-- the same, memo-free: `rec` follows the entry of another module -/
def pFollowK (rec : Option Mod → Entry → Except Err (List Loc × Val)) (o : Option Mod) (ln : Nat) :
    Except Err (Option Target) → Except Err (List Loc × Val)
  | .error e => .error e
  | .ok none => .ok ([(o, ln)], .nothing)
  | .ok (some (.module k)) => .ok ([(o, ln), (some k, 1)], .module k)
  | .ok (some (.entry k e)) =>
    match rec (some k) e with
    | .error e => .error e
    | .ok (tr, v) => .ok ((o, ln) :: tr, v)

/-- the chain of imported names that starts at entry `e` of module `o`, read off disk `E` with no project state:
    the declarations passed and the value at the end -/
def pFollow (E : Disk) : Nat → Option Mod → Entry → Except Err (List Loc × Val)
  | 0, _, _ => .error .recursion
  | _ + 1, o, .own _ ln p => .ok ([(o, ln)], .obj p)
  | n + 1, o, .imp _ ln m mn => pFollowK (pFollow E n) o ln (pResolve E n m mn)
  | n + 1, o, .rimp _ ln up m mn => pFollowK (pFollow E n) o ln (pResolveR E n (dirOf o) up m mn)

def FollowStep (D E : Disk) (n : Nat) : Prop :=
  ∀ st o e r st', follow D n st o e = .ok (r, st') →
    Step D E st st' True (Ev (fun n => pFollow E n o e) r ∧ ValIn st' r.2)

theorem followK_step {ln : Nat} {P : Nat → Except Err (Option Target)}
    (ih : FollowStep D E n) {x} {r}
    (hx : ∀ tg st1, x = .ok (tg, st1) → Step D E st st1 True (Ev P tg ∧ TargetIn st1 tg))
    (h : followK D n o ln x = .ok (r, st')) :
    Step D E st st' True (Ev (fun n => pFollowK (pFollow E n) o ln (P n)) r ∧ ValIn st' r.2) := by
  unfold followK at h
  split at h
  · cases h
  · cases h
    exact (hx _ _ rfl).mp fun ⟨hev, _⟩ => ⟨hev.map fun n hn => by simp only [pFollowK, hn], trivial⟩
  · cases h
    exact (hx _ _ rfl).mp fun ⟨hev, hin⟩ => ⟨hev.map fun n hn => by simp only [pFollowK, hn], hin⟩
  · split at h
    · cases h
    · next hf =>
      cases h
      exact (hx _ _ rfl).trans (ih _ _ _ _ _ hf) fun ⟨hev, _⟩ => ⟨trivial, fun ⟨hev2, hv⟩ =>
        ⟨hev.map₂ hev2 fun n h1 h2 => by simp only [pFollowK, h1, h2], hv⟩⟩

theorem follow_step (n : Nat) : FollowStep D E n := by
  induction n with
  | zero => exact fun _ _ _ _ _ h => nomatch h
  | succ n ih =>
    intro _ _ e _ _ h
    cases e with
    | own => cases h; exact Step.refl fun _ _ => ⟨Ev.of_succ (Ev.const fun _ => rfl), trivial⟩
    | imp => exact (followK_step ih (fun _ _ hr => resolve_step hr) h).mp fun ⟨hev, hv⟩ => ⟨Ev.of_succ hev, hv⟩
    | rimp => exact (followK_step ih (fun _ _ hr => resolveR_step hr) h).mp fun ⟨hev, hv⟩ => ⟨Ev.of_succ hev, hv⟩

end SuppModel.Proj
