/-
  Perm — lemmas behind Props/C17.lean: the orders on locations, alternatives and `str` compare distinct elements in
  exactly one direction, so by SuppModel/Perm/Sort.lean every `sorted(set(...))` of the model is a function of the set.
-/
import SuppModel.Perm.Sort

namespace SuppModel.Perm
open List

theorem locLt_trans {a b c : Loc} (h₁ : locLt a b = true) (h₂ : locLt b c = true) : locLt a c = true := by
  simp only [locLt, Bool.or_eq_true, Bool.and_eq_true, decide_eq_true_eq, beq_iff_eq] at *
  omega

theorem locLt_excl {a b : Loc} (h : a ≠ b) : Excl locLt a b := by
  simp only [ne_eq, Prod.ext_iff] at h
  rw [Excl, Bool.eq_iff_iff]
  simp only [locLt, Bool.not_eq_true', Bool.or_eq_true, Bool.or_eq_false_iff,
    Bool.and_eq_true, Bool.and_eq_false_imp, decide_eq_true_eq, decide_eq_false_iff_not, beq_iff_eq]
  omega

/-- nothing is smaller than `UndefinedName.location` -/
theorem locLt_zero (a : Loc) : locLt a (0, 0) = false := by
  simp [locLt]

theorem Alt.lt_trans (a b c : Alt) (h₁ : Alt.lt a b = true) (h₂ : Alt.lt b c = true) : Alt.lt a c = true := by
  cases a with
  | undef _ => rfl
  | name =>
    -- nothing is below an `UndefinedName`, so `b` and `c` are names as well
    cases b with
    | undef _ => exact absurd h₁ (by simp [Alt.lt, Alt.loc, locLt_zero])
    | name =>
      cases c with
      | undef _ => exact absurd h₂ (by simp [Alt.lt, Alt.loc, locLt_zero])
      | name => exact locLt_trans h₁ h₂

theorem tieFree_excl {a b : Alt} (h : tieFree a b = true) : Excl Alt.lt a b := by
  cases a <;> cases b
  · cases h
  · simp [Excl, Alt.lt, Alt.loc, locLt_zero]
  · simp [Excl, Alt.lt, Alt.loc, locLt_zero]
  · exact locLt_excl (by simpa [tieFree, Alt.loc] using h)

/-- "in source order, Undefined first", spelled out -/
def Alt.before : Alt → Alt → Prop
  | .undef _, .name _ _ _ _ _ => True
  | .name _ _ l₁ _ _, .name _ _ l₂ _ _ => locLt l₁ l₂ = true
  | _, .undef _ => False

theorem before_of_lt {a b : Alt} (h : Before Alt.lt a b) : Alt.before a b := by
  cases a <;> cases b
  · cases h.2
  · trivial
  · exact absurd h.1 (by simp [Alt.lt, Alt.loc, locLt_zero])
  · exact h.1

def Item.alts : Item → List Alt
  | .alt a => [a]
  | .multi _ m => m.altNames

theorem flatten_eq_flatMap (l : List Item) : flatten l = l.flatMap Item.alts := by
  induction l with
  | nil => rfl
  | cons x xs ih => cases x <;> simp [flatten, Item.alts, ih]

theorem flatten_perm {l₁ l₂ : List Item} (h : l₁.Perm l₂) : (flatten l₁).Perm (flatten l₂) := by
  rw [flatten_eq_flatMap, flatten_eq_flatMap]
  exact h.flatMap_right _

theorem NoTiesAlts_iff (l : List Alt) : NoTiesAlts l = true ↔ (dedup l).Pairwise (fun a b => tieFree a b = true) :=
  allPairs_iff _ _

theorem NoTies.excl (s : SetOrder Alt) {xs : List Item} (h : NoTies xs = true) :
    (s.order (dedup (flatten xs))).Pairwise (Excl Alt.lt) :=
  (s.perm _).symm.pairwise (((NoTiesAlts_iff _).1 h).imp tieFree_excl) Excl.symm

theorem altNames_perm (s₁ s₂ : SetOrder Alt) {xs₁ xs₂ : List Item} (hp : xs₁.Perm xs₂) (h : NoTies xs₁ = true) :
    altNames s₁ xs₁ = altNames s₂ xs₂ :=
  sortBy_eq_of_perm Alt.lt_trans ((s₁.perm _).trans ((dedup_perm (flatten_perm hp)).trans (s₂.perm _).symm))
    (NoTies.excl s₁ h)

theorem altNames_sorted (s : SetOrder Alt) {xs : List Item} (h : NoTies xs = true) :
    (altNames s xs).Pairwise (Before Alt.lt) :=
  sortBy_sorted Alt.lt_trans (NoTies.excl s h)

def rowCase (s : SetOrder Alt) : List Item → Except PyErr Val
  | [x] => .ok x.toVal
  | r => (multiName s r).map Val.multi

theorem rowValue_eq (h : Hash) (p : List Table) (n : Str) :
    rowValue h p n = rowCase h.alts (h.items.order (dedup (rowOf p n))) := by
  rfl

theorem rowCase_perm (s₁ s₂ : SetOrder Alt) {r₁ r₂ : List Item} (hp : r₁.Perm r₂) (h : NoTies r₁ = true) :
    rowCase s₁ r₁ = rowCase s₂ r₂ := by
  unfold rowCase
  split
  · cases singleton_perm.1 hp
    rfl
  · next hne =>
    split
    · exact absurd (perm_singleton.1 hp) (hne _)
    · rw [multiName, altNames_perm s₁ s₂ hp h, multiName]

theorem rowValue_det (h₁ h₂ : Hash) (p : List Table) (n : Str) (h : NoTies (dedup (rowOf p n)) = true) :
    rowValue h₁ p n = rowValue h₂ p n := by
  rw [rowValue_eq, rowValue_eq]
  exact (rowCase_perm h₁.alts _ (h₁.items.perm _).symm h).symm.trans (rowCase_perm _ _ (h₂.items.perm _).symm h)

theorem buildTable_congr {f g : Str → Except PyErr Val} {ks : List Str} (h : ∀ n ∈ ks, f n = g n) :
    buildTable f ks = buildTable g ks := by
  induction ks with
  | nil => rfl
  | cons n ns ih =>
    simp only [buildTable, h n mem_cons_self, ih fun m hm => h m (mem_cons_of_mem _ hm)]

theorem pyErr_eq (e₁ e₂ : PyErr) : e₁ = e₂ := by cases e₁; cases e₂; rfl

instance : Subsingleton PyErr := ⟨pyErr_eq⟩

theorem buildTable_eq (f : Str → Except PyErr Val) (ks : List Str) : buildTable f ks =
    if ks.all (fun n => (f n).isOk) then .ok (ks.filterMap fun n => (f n).toOption.map (n, ·))
    else .error .indexError := by
  induction ks with
  | nil => rfl
  | cons n ns ih =>
    rw [buildTable, ih, all_cons, filterMap_cons]
    cases f n with
    | error e => exact congrArg Except.error (pyErr_eq ..)
    | ok v => cases ns.all (fun n => (f n).isOk) <;> rfl

theorem lookup_filterMap_key {β : Type} (g : Str → Option β) (ks : List Str) (k : Str) :
    (ks.filterMap fun n => (g n).map (n, ·)).lookup k = if k ∈ ks then g k else none := by
  induction ks with
  | nil => rfl
  | cons n ns ih =>
    rw [filterMap_cons]
    by_cases hk : k = n
    · subst hk
      cases hg : g k <;> simp [ih, hg]
    · cases g n <;> simp [ih, hk, lookup_cons, beq_eq_false_iff_ne.2 hk]

theorem buildTable_perm_get (f : Str → Except PyErr Val) {ks₁ ks₂ : List Str} (hp : ks₁.Perm ks₂) (k : Str) :
    tableGet (buildTable f ks₁) k = tableGet (buildTable f ks₂) k := by
  rw [buildTable_eq, buildTable_eq, hp.all_eq]
  split
  · simp only [tableGet, Except.map, lookup_filterMap_key, hp.mem_iff]
  · rfl

theorem buildTable_keys {f : Str → Except PyErr Val} {ks : List Str} {t : List (Str × Val)}
    (h : buildTable f ks = .ok t) : t.map Prod.fst = ks := by
  fun_induction buildTable f ks generalizing t with
  | case1 => cases h; rfl
  | case2 => cases h
  | case3 => cases h
  | case4 _ _ _ _ _ hb ih => cases h; rw [map_cons, ih hb]

theorem strLt_iff (a b : Str) : strLt a b = true ↔ a < b := by
  fun_induction strLt a b <;> simp [cons_lt_cons_iff, *]

theorem strLt_trans (a b c : Str) (h₁ : strLt a b = true) (h₂ : strLt b c = true) : strLt a c = true :=
  (strLt_iff a c).2 (List.lt_trans ((strLt_iff a b).1 h₁) ((strLt_iff b c).1 h₂))

theorem strLt_excl {a b : Str} (h : a ≠ b) : Excl strLt a b := by
  rw [Excl, Bool.eq_iff_iff, Bool.not_eq_true', ← Bool.not_eq_true, strLt_iff, strLt_iff, List.not_lt]
  exact ⟨List.le_of_lt, fun h' => (List.le_iff_lt_or_eq.1 h').resolve_right h⟩

theorem assist_excl (s : SetOrder Str) (marked : Str → Bool) (names : List Str) :
    ((s.order (dedup names)).filter fun n => !marked n).Pairwise (Excl strLt) :=
  (((s.perm _).symm.nodup (nodup_dedup names)).filter _).imp strLt_excl

end SuppModel.Perm
