/-
  Perm — the generic part: insertion sort by an order in which distinct elements are comparable in exactly one
  direction gives one result for all arrangements of the input; `dedup`; `allPairs`.
-/
import SuppModel.Perm.Model

namespace SuppModel.Perm
open List

section sort
variable {α : Type} {lt : α → α → Bool}

/-- `a` and `b` are comparable, in exactly one direction -/
def Excl (lt : α → α → Bool) (a b : α) : Prop := lt a b = !lt b a

theorem Excl.symm {a b : α} (h : Excl lt a b) : Excl lt b a := by
  rw [Excl, h, Bool.not_not]

abbrev Before (lt : α → α → Bool) (a b : α) : Prop := lt a b = true ∧ lt b a = false

theorem mem_insertBy {x a : α} {l : List α} : a ∈ insertBy lt x l ↔ a = x ∨ a ∈ l := by
  rw [(insertBy_perm lt x l).mem_iff, mem_cons]

theorem insertBy_sorted (htr : ∀ a b c, lt a b = true → lt b c = true → lt a c = true)
    (x : α) (acc : List α) (hacc : acc.Pairwise (lt · · = true)) (hx : ∀ y ∈ acc, Excl lt x y) :
    (insertBy lt x acc).Pairwise (lt · · = true) := by
  induction acc with
  | nil => exact pairwise_singleton ..
  | cons y ys ih =>
    rw [pairwise_cons] at hacc
    rw [insertBy]
    split
    · next hxy =>
      refine pairwise_cons.2 ⟨fun z hz => ?_, pairwise_cons.2 hacc⟩
      rcases mem_cons.1 hz with rfl | hz
      · exact hxy
      · exact htr _ _ _ hxy (hacc.1 z hz)
    · next hxy =>
      -- `x` is not before `y`, so it is after it
      have hyx : lt y x = true := by simpa [Excl, hxy] using hx y mem_cons_self
      refine pairwise_cons.2 ⟨fun w hw => ?_, ih hacc.2 fun z hz => hx z (mem_cons_of_mem _ hz)⟩
      rcases mem_insertBy.1 hw with rfl | hw
      · exact hyx
      · exact hacc.1 w hw

theorem sortInto_sorted (htr : ∀ a b c, lt a b = true → lt b c = true → lt a c = true)
    (l acc : List α) (hacc : acc.Pairwise (lt · · = true)) (h : (acc ++ l).Pairwise (Excl lt)) :
    (sortInto lt acc l).Pairwise (lt · · = true) := by
  induction l generalizing acc with
  | nil => exact hacc
  | cons x xs ih =>
    refine ih _ (insertBy_sorted htr x acc hacc fun y hy => ?_) ?_
    · exact ((pairwise_append.1 h).2.2 y hy x mem_cons_self).symm
    · have hp : (acc ++ x :: xs).Perm (insertBy lt x acc ++ xs) :=
        perm_middle.trans ((insertBy_perm lt x acc).symm.append_right xs)
      exact hp.pairwise h Excl.symm

theorem sortBy_sorted (htr : ∀ a b c, lt a b = true → lt b c = true → lt a c = true)
    {l : List α} (h : l.Pairwise (Excl lt)) : (sortBy lt l).Pairwise (Before lt) := by
  have h₁ := sortInto_sorted htr l [] .nil h
  have h₂ := (sortBy_perm lt l).symm.pairwise h Excl.symm
  exact (h₁.and h₂).imp fun ⟨hab, he⟩ => ⟨hab, by simpa [Excl, hab] using he.symm⟩

theorem sortBy_eq_of_perm (htr : ∀ a b c, lt a b = true → lt b c = true → lt a c = true)
    {l₁ l₂ : List α} (hp : l₁.Perm l₂) (h : l₁.Pairwise (Excl lt)) : sortBy lt l₁ = sortBy lt l₂ :=
  Perm.eq_of_pairwise (fun _ _ _ _ hab hba => absurd hba.1 (by simp [hab.2]))
    (sortBy_sorted htr h) (sortBy_sorted htr (hp.pairwise h Excl.symm))
    ((sortBy_perm lt l₁).trans (hp.trans (sortBy_perm lt l₂).symm))

end sort

theorem allPairs_iff {α : Type} (r : α → α → Bool) (l : List α) :
    allPairs r l = true ↔ l.Pairwise (fun a b => r a b = true) := by
  induction l with
  | nil => simp [allPairs]
  | cons x xs ih => simp [allPairs, ih, List.all_eq_true]

theorem SetOrder.perm₂ {α : Type} (s₁ s₂ : SetOrder α) (l : List α) : (s₁.order l).Perm (s₂.order l) :=
  (s₁.perm l).trans (s₂.perm l).symm

section dedup
variable {α : Type} [DecidableEq α]

theorem mem_dedup {a : α} {l : List α} : a ∈ dedup l ↔ a ∈ l := by
  induction l with
  | nil => rfl
  | cons x xs ih =>
    rw [dedup]
    split
    · next hx => rw [ih, mem_cons, or_iff_right_of_imp (· ▸ hx)]
    · rw [mem_cons, mem_cons, ih]

theorem nodup_dedup (l : List α) : (dedup l).Nodup := by
  induction l with
  | nil => exact .nil
  | cons x xs ih =>
    rw [dedup]
    split
    · exact ih
    · next hx => exact nodup_cons.2 ⟨fun h => hx (mem_dedup.1 h), ih⟩

theorem dedup_perm {l₁ l₂ : List α} (h : l₁.Perm l₂) : (dedup l₁).Perm (dedup l₂) :=
  (perm_ext_iff_of_nodup (nodup_dedup l₁) (nodup_dedup l₂)).2 fun a => by rw [mem_dedup, mem_dedup, h.mem_iff]

end dedup

end SuppModel.Perm
