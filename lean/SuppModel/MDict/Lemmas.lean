/-
  MDict — `getitem` is `findSome?` over the parts; the keys of `iteritems` are an `addKey`-fold over the parts' keys,
  last part first, and a lookup in it is `getitem`.
-/
import SuppModel.MDict.Model
namespace SuppModel.MDict

@[simp] theorem get?_nil (k : Nat) : Dict.get? [] k = none := rfl

@[simp] theorem get?_cons (ab : Nat × Nat) (r : Dict) (k : Nat) :
    Dict.get? (ab :: r) k = if k = ab.1 then some ab.2 else Dict.get? r k := by
  simp only [Dict.get?, eq_comm]

@[simp] theorem keys_nil : Dict.keys [] = [] := rfl

@[simp] theorem keys_cons (ab : Nat × Nat) (r : Dict) : Dict.keys (ab :: r) = ab.1 :: Dict.keys r := rfl

theorem wf_cons (ab : Nat × Nat) (r : Dict) : Dict.wf (ab :: r) ↔ ab.1 ∉ Dict.keys r ∧ Dict.wf r :=
  List.nodup_cons

theorem get?_none_iff (d : Dict) (k : Nat) : d.get? k = none ↔ k ∉ d.keys := by
  induction d with
  | nil => simp
  | cons ab r ih => by_cases h : k = ab.1 <;> simp [h, ih]

theorem get?_isSome_iff (d : Dict) (k : Nat) : (d.get? k).isSome = true ↔ k ∈ d.keys := by
  rw [← Option.ne_none_iff_isSome, Ne, get?_none_iff, Classical.not_not]

theorem get?_set (d : Dict) (k v k' : Nat) :
    (d.set k v).get? k' = if k' = k then some v else d.get? k' := by
  induction d with
  | nil => simp [Dict.set]
  | cons ab r ih =>
    simp only [Dict.set]
    by_cases h : ab.1 = k
    · by_cases h' : k' = k <;> simp [h, h']
    · by_cases h' : k' = ab.1 <;> simp [h, h', ih]

theorem addKey_eq (ks : List Nat) (k : Nat) : addKey ks k = if k ∈ ks then ks else ks ++ [k] := by
  induction ks with
  | nil => simp [addKey]
  | cons a r ih =>
    by_cases h : a = k
    · simp [addKey, h]
    · by_cases hm : k ∈ r <;> simp [addKey, h, Ne.symm h, hm, ih]

theorem mem_addKey (ks : List Nat) (k x : Nat) : x ∈ addKey ks k ↔ x ∈ ks ∨ x = k := by
  rw [addKey_eq]
  split <;> simp_all

theorem nodup_addKey (ks : List Nat) (k : Nat) (h : ks.Nodup) : (addKey ks k).Nodup := by
  rw [addKey_eq]
  split
  · exact h
  · next hm => exact (List.nodup_cons.mpr ⟨hm, h⟩).perm (List.perm_append_singleton k ks).symm

theorem keys_set (d : Dict) (k v : Nat) : (d.set k v).keys = addKey d.keys k := by
  induction d with
  | nil => rfl
  | cons ab r ih =>
    simp only [Dict.set, keys_cons, addKey]
    split <;> simp [ih]

theorem keys_update (d p : Dict) : (d.update p).keys = p.keys.foldl addKey d.keys := by
  induction p generalizing d with
  | nil => rfl
  | cons ab r ih => simpa [Dict.update, keys_set] using ih (d.set ab.1 ab.2)

theorem nodup_foldl_addKey (l ks : List Nat) (h : ks.Nodup) : (l.foldl addKey ks).Nodup := by
  induction l generalizing ks with
  | nil => exact h
  | cons a r ih => exact ih _ (nodup_addKey ks a h)

theorem mem_foldl_addKey (l ks : List Nat) (x : Nat) : x ∈ l.foldl addKey ks ↔ x ∈ ks ∨ x ∈ l := by
  induction l generalizing ks with
  | nil => simp
  | cons a r ih => simp [ih, mem_addKey, or_assoc]

theorem foldl_addKey_append (a b ks : List Nat) :
    (a ++ b).foldl addKey ks = b.foldl addKey (a.foldl addKey ks) :=
  List.foldl_append

theorem get?_update (d p : Dict) (hp : p.wf) (k : Nat) :
    (d.update p).get? k = match p.get? k with | some v => some v | none => d.get? k := by
  induction p generalizing d with
  | nil => rfl
  | cons ab r ih =>
    obtain ⟨ha, hr⟩ := (wf_cons ab r).mp hp
    have := ih (d.set ab.1 ab.2) hr
    simp only [Dict.update, List.foldl_cons] at this ⊢
    rw [this, get?_cons, get?_set]
    by_cases h : k = ab.1
    · simp [h, (get?_none_iff r _).mpr ha]
    · simp [h]

theorem getitem_eq_findSome? (ds : List Dict) (k : Nat) : getitem ds k = ds.findSome? (Dict.get? · k) := by
  induction ds with
  | nil => rfl
  | cons p r ih =>
    simp only [getitem, List.findSome?_cons, ih]
    cases p.get? k <;> rfl

theorem getitem_isSome (ds : List Dict) (k : Nat) : (getitem ds k).isSome = contains ds k := by
  rw [Bool.eq_iff_iff]
  simp [contains, getitem_eq_findSome?]

theorem getitem_append (a b : List Dict) (k : Nat) :
    getitem (a ++ b) k = match getitem a k with | some v => some v | none => getitem b k := by
  simp only [getitem_eq_findSome?, List.findSome?_append]
  cases List.findSome? (Dict.get? · k) a <;> rfl

theorem iteritems_cons (p : Dict) (r : List Dict) : iteritems (p :: r) = (iteritems r).update p := by
  simp [iteritems, List.foldl_append]

theorem iteritems_get? (ds : List Dict) (hwf : ∀ d ∈ ds, Dict.wf d) (k : Nat) :
    (iteritems ds).get? k = getitem ds k := by
  induction ds with
  | nil => rfl
  | cons p r ih =>
    rw [iteritems_cons, get?_update _ _ (hwf p (by simp)), ih fun d hd => hwf d (by simp [hd])]
    rfl

theorem iter_order (ds : List Dict) : iter ds = (ds.reverse.flatMap Dict.keys).foldl addKey [] := by
  induction ds with
  | nil => rfl
  | cons p r ih =>
    rw [iter, iteritems_cons, keys_update, ← iter, ih]
    simp [List.flatMap_append, List.foldl_append]

theorem iter_nodup (ds : List Dict) : (iter ds).Nodup := by
  rw [iter_order]
  exact nodup_foldl_addKey _ _ .nil

theorem mem_iter (ds : List Dict) (k : Nat) : k ∈ iter ds ↔ ∃ d ∈ ds, k ∈ Dict.keys d := by
  simp [iter_order, mem_foldl_addKey]

theorem filterMap_congr {α β : Type} {f g : α → Option β} (l : List α) (h : ∀ k ∈ l, f k = g k) :
    l.filterMap f = l.filterMap g := by
  induction l with
  | nil => rfl
  | cons a r ih =>
    simp only [List.filterMap_cons, h a (by simp), ih fun k hk => h k (by simp [hk])]

theorem values_eq_lookups (d : Dict) (h : d.wf) : d.map (·.2) = d.keys.filterMap d.get? := by
  induction d with
  | nil => rfl
  | cons ab r ih =>
    obtain ⟨ha, hr⟩ := (wf_cons ab r).mp h
    have : (Dict.keys r).filterMap (Dict.get? (ab :: r)) = (Dict.keys r).filterMap (Dict.get? r) :=
      filterMap_congr _ fun k hk => by simp [show k ≠ ab.1 from fun e => ha (e ▸ hk)]
    simp [this, ih hr]

end SuppModel.MDict
