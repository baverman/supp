/-
  The decoder accepts every legal encoding of a data-model value and rejects each of its
  proper prefixes as insufficient data.  Both halves are one statement, `Reads`, which composes
  along `>>=`; the stages of `Stages.lean` are its leaves.
-/
import SuppModel.Msgpack.Stages
import SuppModel.Msgpack.Values
namespace SuppModel.Msgpack

theorem prefix_append_cases {q a b : Bytes} (h : q <+: a ++ b) :
    (q <+: a ∧ q ≠ a) ∨ ∃ r, q = a ++ r ∧ r <+: b := by
  obtain ⟨t, ht⟩ := h
  rcases List.append_eq_append_iff.mp ht with ⟨as, rfl, rfl⟩ | ⟨bs, rfl, rfl⟩
  · by_cases hq : as = []
    · subst hq; exact .inr ⟨[], by simp, by simp⟩
    · exact .inl ⟨⟨as, rfl⟩, fun h => hq (by simpa using h)⟩
  · exact .inr ⟨bs, rfl, ⟨t, rfl⟩⟩

theorem prefix_length_lt {q a : Bytes} (h : q <+: a) (hne : q ≠ a) : q.length < a.length :=
  Nat.lt_of_le_of_ne h.length_le fun e => hne (h.eq_of_length e)

/-- with fuel `f` the parser `p` reads exactly `bs`, whatever follows, and returns `a`; on a
    proper prefix of `bs` it runs out of data.  The fuel guards are those of `unpack`: each
    nesting level consumes a byte, so fuel above the length of the input never runs out. -/
def Reads {α} (f : Nat) (p : Bytes → Except Err (α × Bytes)) (bs : Bytes) (a : α) : Prop :=
  (bs.length < f → ∀ e, p (bs ++ e) = .ok (a, e)) ∧
  ∀ q, q.length < f → q <+: bs → q ≠ bs → p q = .error .insufficient

namespace Reads
variable {α β : Type} {f : Nat} {p : Bytes → Except Err (α × Bytes)}

theorem congr {p' : Bytes → Except Err (α × Bytes)} {bs : Bytes} {a : α}
    (h : ∀ i, p i = p' i) (hp : Reads f p' bs a) : Reads f p bs a :=
  ⟨fun hf e => (h _).trans (hp.1 hf e), fun q hf hq hne => (h _).trans (hp.2 q hf hq hne)⟩

theorem ok {a : α} : Reads f (fun i => .ok (a, i)) [] a :=
  ⟨fun _ _ => rfl, fun _ _ hq hne => absurd (List.prefix_nil.mp hq) hne⟩

theorem readExcept {n : Nat} {b : Bytes} (h : b.length = n) : Reads f (readExcept n) b b :=
  ⟨fun _ e => readExcept_append n b e h,
   fun q _ hq hne => readExcept_short n q (h ▸ prefix_length_lt hq hne)⟩

/-- sequencing: `p` runs `p₀` first and, when that returns `x`, goes on as `g` -/
theorem seq {p₀ : Bytes → Except Err (α × Bytes)} {p g : Bytes → Except Err (β × Bytes)}
    {a b : Bytes} {x : α} {y : β} (h₀ : Reads f p₀ a x)
    (herr : ∀ i e, p₀ i = .error e → p i = .error e)
    (hok : ∀ i r, p₀ i = .ok (x, r) → p i = g r)
    (hg : Reads f g b y) : Reads f p (a ++ b) y := by
  refine ⟨fun hf e => ?_, fun q hf hq hne => ?_⟩
  · rw [List.length_append] at hf
    rw [List.append_assoc, hok _ _ (h₀.1 (by omega) _), hg.1 (by omega)]
  · rcases prefix_append_cases hq with ⟨h1, h2⟩ | ⟨r, rfl, hr⟩
    · exact herr _ _ (h₀.2 q hf h1 h2)
    · rw [List.length_append] at hf
      rw [hok _ _ (h₀.1 (by omega) r)]
      exact hg.2 r (by omega) hr fun e => hne (by rw [e])

theorem bind {k : α × Bytes → Except Err (β × Bytes)} {a b : Bytes} {x : α} {y : β}
    (hp : Reads f p a x) (hk : Reads f (fun i => k (x, i)) b y) :
    Reads f (fun i => p i >>= k) (a ++ b) y :=
  seq hp (fun i e h => by simp only [h, err_bind]) (fun i r h => by simp only [h, ok_bind]) hk

theorem bind_ok {k : α × Bytes → Except Err (β × Bytes)} {a : Bytes} {x : α} {y : β}
    (hp : Reads f p a x) (hk : ∀ i, k (x, i) = .ok (y, i)) : Reads f (fun i => p i >>= k) a y := by
  simpa using hp.bind (congr hk ok)

theorem cons {c : Nat} {b : Bytes} {a : α} (h₀ : p [] = .error .insufficient)
    (h : Reads f (fun i => p (c :: i)) b a) : Reads (f + 1) p (c :: b) a := by
  refine ⟨fun hf e => h.1 (by simpa using hf) e, fun q hf hq hne => ?_⟩
  cases q with
  | nil => exact h₀
  | cons x q' =>
    obtain ⟨rfl, hq'⟩ := List.cons_prefix_cons.mp hq
    exact h.2 q' (by simpa using hf) hq' fun e => hne (by rw [e])

end Reads

section
variable {f : Nat}

theorem reads_unsigned {c : Nat} (h1 : 0xcc ≤ c) (h2 : c ≤ 0xcf) {b : Bytes}
    (hl : b.length = 2 ^ (c - 0xcc)) : Reads f (unpackInteger c) b (beVal b : Int) :=
  .congr (unpackInteger_unsigned h1 h2) ((Reads.readExcept hl).bind_ok fun _ => rfl)

theorem reads_signed {c : Nat} (h1 : 0xd0 ≤ c) (h2 : c ≤ 0xd3) {b : Bytes}
    (hl : b.length = 2 ^ (c - 0xd0)) : Reads f (unpackInteger c) b (sInt b) := by
  rw [← unpackSigned_eq_sInt b (hl ▸ Nat.two_pow_pos _)]
  exact .congr (unpackInteger_signed h1 h2) ((Reads.readExcept hl).bind_ok fun _ => rfl)

/-- a fix code `a + k` carries the length `k` in its low `i` bits -/
theorem reads_len_fix {a m t l c8 c16 c32 k : Nat} (i : Nat) (hl : l = 2 ^ i - 1)
    (ha : a % 2 ^ i = 0) (hk : k < 2 ^ i) (hm : m ≠ 0) (h : (a + k) &&& m = t) :
    Reads f (readLen (a + k) m t l c8 c16 c32) [] k := by
  have hlow : (a + k) &&& l = k := by
    rw [hl, Nat.and_two_pow_sub_one_eq_mod, Nat.add_mod, ha, Nat.zero_add, Nat.mod_mod,
      Nat.mod_eq_of_lt hk]
  exact .congr (fun i => by rw [readLen_fix hm h, hlow]) .ok

theorem reads_len_wide {c m t l c8 c16 c32 w k : Nat} (h : LenCode c m t c8 c16 c32 w)
    (hk : k < 256 ^ w) : Reads f (readLen c m t l c8 c16 c32) (beBytes w k) k := by
  have := (Reads.readExcept (f := f) (beBytes_length w k)).bind_ok
    (k := fun (b, r) => pure (beVal b, r)) fun _ => rfl
  rw [beVal_beBytes_lt w k hk] at this
  exact .congr (readLen_wide h) this

theorem reads_extTail {t len : Nat} {p : Bytes} (hl : p.length = len) (ht : t ≤ 127) :
    Reads f (extTail len) (t :: p) (.ext (t : Int) p) :=
  (Reads.readExcept (b := [t]) rfl).bind
    ((Reads.readExcept hl).bind_ok fun _ => by simp [beVal, ht]; rfl)

/-- the first byte `c` selects family `F`, whose stage reads the rest -/
theorem Reads.first {c : Nat} {F : Generated.Family} {b : Bytes} {v : Value}
    (hc : familyCodes F c) (h : Reads f (fun i => stage f c i F) b v)
    (hF : F ≠ .missing := by decide) : Reads (f + 1) (unpack (f + 1)) (c :: b) v := by
  have hlt : c < 256 := by cases F <;> first | omega | exact absurd rfl hF
  exact .cons (unpack_nil f) (.congr (fun i => unpack_cons i ((dispatch_eq_iff hlt F).mpr hc)) h)

theorem reads_int {n : Int} {bs : Bytes} (he : Encodes (.int n) bs) :
    Reads (f + 1) (unpack (f + 1)) bs (.int n) := by
  have key : ∀ {c b n}, familyCodes .integer c → Reads f (unpackInteger c) b n →
      Reads (f + 1) (unpack (f + 1)) (c :: b) (.int n) := fun hc h =>
    .first hc (h.bind_ok fun _ => rfl)
  cases he with
  | posfix n h => exact key (by omega) (.congr (unpackInteger_pos h) .ok)
  | negfix n h1 h2 => exact key (by omega) (.congr (unpackInteger_neg h1 h2) .ok)
  | uint8 b hl _ | uint16 b hl _ | uint32 b hl _ | uint64 b hl _ =>
    exact key (by decide) (reads_unsigned (by decide) (by decide) hl)
  | int8 b hl _ | int16 b hl _ | int32 b hl _ | int64 b hl _ =>
    exact key (by decide) (reads_signed (by decide) (by decide) hl)

theorem reads_nil {bs : Bytes} (he : Encodes .nil bs) : Reads (f + 1) (unpack (f + 1)) bs .nil := by
  cases he
  exact .first (F := .nil) rfl .ok

theorem reads_bool {b : Bool} {bs : Bytes} (he : Encodes (.bool b) bs) :
    Reads (f + 1) (unpack (f + 1)) bs (.bool b) := by
  cases he <;> exact .first (F := .boolean) (by decide) .ok

theorem reads_float {x : Nat} {bs : Bytes} (he : Encodes (.float x) bs) :
    Reads (f + 1) (unpack (f + 1)) bs (.float x) := by
  have key : ∀ {c b x}, familyCodes .float c → Reads f (unpackFloat c) b x →
      Reads (f + 1) (unpack (f + 1)) (c :: b) (.float x) := fun hc h =>
    .first hc (h.bind_ok fun _ => rfl)
  cases he with
  | float32 b hl _ =>
    exact key (by decide) (.congr unpackFloat_32 ((Reads.readExcept hl).bind_ok fun _ => rfl))
  | float64 b hl _ =>
    exact key (by decide) (.congr unpackFloat_64 ((Reads.readExcept hl).bind_ok fun _ => rfl))

theorem reads_str {p bs : Bytes} (he : Encodes (.str p) bs) (hv : validUtf8 p = true) :
    Reads (f + 1) (unpack (f + 1)) bs (.str p) := by
  have key : ∀ {c hdr}, familyCodes .string c →
      Reads f (readLen c 0xe0 0xa0 0x1f 0xd9 0xda 0xdb) hdr p.length →
      Reads (f + 1) (unpack (f + 1)) (c :: (hdr ++ p)) (.str p) := fun hc h =>
    .first hc (h.bind ((Reads.readExcept rfl).bind_ok fun _ => by simp [hv]; rfl))
  cases he with
  | fixstr _ h =>
    exact key (hdr := []) (by omega) (reads_len_fix 5 rfl rfl h (by decide)
      ((mask_iff _ (by omega)).2.2.1.mpr (by omega)))
  | str8 _ h | str16 _ h | str32 _ h =>
    exact key (by decide) (reads_len_wide (by decide) (by omega))

theorem reads_bin {p bs : Bytes} (he : Encodes (.bin p) bs) :
    Reads (f + 1) (unpack (f + 1)) bs (.bin p) := by
  have key : ∀ {c hdr}, familyCodes .binary c →
      Reads f (readLen c 0 0 0 0xc4 0xc5 0xc6) hdr p.length →
      Reads (f + 1) (unpack (f + 1)) (c :: (hdr ++ p)) (.bin p) := fun hc h =>
    .first hc (h.bind ((Reads.readExcept rfl).bind_ok fun _ => rfl))
  cases he with
  | bin8 _ h | bin16 _ h | bin32 _ h =>
    exact key (by decide) (reads_len_wide (by decide) (by omega))

theorem reads_ext {ty : Int} {p bs : Bytes} (he : Encodes (.ext ty p) bs) (hty : ty ≤ 127) :
    Reads (f + 1) (unpack (f + 1)) bs (.ext ty p) := by
  have key : ∀ {c b}, familyCodes .ext c → Reads f (unpackExt c) b (.ext ty p) →
      Reads (f + 1) (unpack (f + 1)) (c :: b) (.ext ty p) := .first
  have wide : ∀ {c w t}, ty = (t : Nat) → 0xc7 ≤ c → c ≤ 0xc9 →
      Reads f (readLen c 0 0 0 0xc7 0xc8 0xc9) (beBytes w p.length) p.length →
      Reads f (unpackExt c) (beBytes w p.length ++ t :: p) (.ext ty p) := fun ht h1 h2 h =>
    .congr (unpackExt_wide h1 h2) (h.bind (ht ▸ reads_extTail rfl (by omega)))
  cases he with
  | fixext1 t _ hl | fixext2 t _ hl | fixext4 t _ hl | fixext8 t _ hl | fixext16 t _ hl =>
    exact key (by decide) (.congr (unpackExt_fix (by decide) (by decide))
      (reads_extTail hl (by omega)))
  | ext8 t _ h | ext16 t _ h | ext32 t _ h =>
    exact key (by decide) (wide rfl (by decide) (by decide)
      (reads_len_wide (by decide) (by omega)))

theorem Encodes.arr_of_tup {xs : List Value} {bs : Bytes} (he : Encodes (.tup xs) bs) :
    Encodes (.arr xs) bs := by
  cases he with
  | fixtup _ _ h hl => exact .fixarr _ _ h hl
  | tup16 _ _ h hl => exact .arr16 _ _ h hl
  | tup32 _ _ h hl => exact .arr32 _ _ h hl

theorem reads_arr {xs ys : List Value} {bs : Bytes} (he : Encodes (.arr xs) bs)
    (ih : ∀ {body}, EncodesList xs body → Reads f (unpackN f xs.length) body ys) :
    Reads (f + 1) (unpack (f + 1)) bs (.arr ys) := by
  have key : ∀ {c hdr body}, familyCodes .array c → EncodesList xs body →
      Reads f (readLen c 0xf0 0x90 0x0f 0 0xdc 0xdd) hdr xs.length →
      Reads (f + 1) (unpack (f + 1)) (c :: (hdr ++ body)) (.arr ys) := fun hc hl h =>
    .first hc (h.bind ((ih hl).bind_ok fun _ => rfl))
  cases he with
  | fixarr _ _ h hl =>
    exact key (hdr := []) (by omega) hl (reads_len_fix 4 rfl rfl h (by decide)
      ((mask_iff _ (by omega)).2.2.2.1.mpr (by omega)))
  | arr16 _ _ h hl | arr32 _ _ h hl =>
    exact key (by decide) hl (reads_len_wide (by decide) (by omega))

theorem reads_map {kvs : List (Value × Value)} {d : Dict} {bs : Bytes} (he : Encodes (.map kvs) bs)
    (ih : ∀ {body}, EncodesPairs kvs body →
      Reads f (fun i => unpackMap f kvs.length i []) body d) :
    Reads (f + 1) (unpack (f + 1)) bs (.map d) := by
  have key : ∀ {c hdr body}, familyCodes .map c → EncodesPairs kvs body →
      Reads f (readLen c 0xf0 0x80 0x0f 0 0xde 0xdf) hdr kvs.length →
      Reads (f + 1) (unpack (f + 1)) (c :: (hdr ++ body)) (.map d) := fun hc hl h =>
    .first hc (h.bind ((ih hl).bind_ok fun _ => rfl))
  cases he with
  | fixmap _ _ h hl =>
    exact key (hdr := []) (by omega) hl (reads_len_fix 4 rfl rfl h (by decide)
      ((mask_iff _ (by omega)).2.2.2.2.mpr (by omega)))
  | map16 _ _ h hl | map32 _ _ h hl =>
    exact key (by decide) hl (reads_len_wide (by decide) (by omega))

end

theorem unpackMap_succ_err {f n : Nat} {inp : Bytes} {d : Dict} {e : Err}
    (hk : unpack f inp = .error e) : unpackMap f (n + 1) inp d = .error e := by
  rw [unpackMap_succ, hk]; rfl

/-- one step of the map loop on a key that is hashable and new: list keys (tuples on the
    encoder's side) skip the duplicate test, atoms pass it -/
theorem unpackMap_succ_key {f n : Nat} {inp r : Bytes} {d : Dict} {k : Value}
    (hk : unpack f inp = .ok (normV k, r)) (hh : hashable k = true)
    (hd : ∀ p ∈ d, keyEq p.1 k = false) :
    unpackMap f (n + 1) inp d =
      (do let (v, r') ← unpack f r; unpackMap f n r' (d ++ [(k, v)])) := by
  rw [unpackMap_succ, hk, ok_bind]
  cases k <;> simp [hashable] at hh
  case tup xs => simp [normV, hashable, hh, deepTupleList_normList xs hh, dictSet_append d _ _ hd]
  all_goals simp [normV, hashable, dictHas_false d _ hd, dictSet_append d _ _ hd]

mutual
theorem unpack_reads : (v : Value) → ∀ (bs : Bytes) (f : Nat), Encodes v bs → wf v = true →
    Reads f (unpack f) bs (normV v)
  | _, _, 0, _, _ => ⟨fun h => absurd h (Nat.not_lt_zero _), fun _ h => absurd h (Nat.not_lt_zero _)⟩
  | .nil, _, _ + 1, he, _ => reads_nil he
  | .bool _, _, _ + 1, he, _ => reads_bool he
  | .int _, _, _ + 1, he, _ => reads_int he
  | .float _, _, _ + 1, he, _ => reads_float he
  | .str _, _, _ + 1, he, hw => by
    simp only [wf, Bool.and_eq_true] at hw
    exact reads_str he hw.1.2
  | .bin _, _, _ + 1, he, _ => reads_bin he
  | .ext _ _, _, _ + 1, he, hw => by
    simp only [wf, Bool.and_eq_true, decide_eq_true_eq] at hw
    exact reads_ext he hw.1.1.2
  | .opaque, _, _ + 1, _, hw => by simp [wf] at hw
  | .arr xs, _, f + 1, he, hw => reads_arr he fun hel =>
    unpackN_reads xs _ f hel (Bool.and_eq_true_iff.mp hw).2
  | .tup xs, _, f + 1, he, hw => reads_arr he.arr_of_tup fun hel =>
    unpackN_reads xs _ f hel (Bool.and_eq_true_iff.mp hw).2
  | .map kvs, _, f + 1, he, hw => by
    simp only [wf, Bool.and_eq_true] at hw
    exact reads_map he fun hel => unpackMap_reads kvs _ f [] hel hw.1.2 hw.2 nofun
termination_by structural v => v
theorem unpackN_reads : (xs : List Value) → ∀ (bs : Bytes) (f : Nat), EncodesList xs bs →
    wfList xs = true → Reads f (unpackN f xs.length) bs (normList xs)
  | [], _, f, he, _ => by cases he; exact .congr (unpackN_zero f) .ok
  | x :: xs, _, f, he, hw => by
    cases he with
    | cons _ _ a b hea heb =>
      simp only [wfList, Bool.and_eq_true] at hw
      exact .congr (unpackN_succ f _)
        ((unpack_reads x a f hea hw.1).bind
          ((unpackN_reads xs b f heb hw.2).bind_ok fun _ => rfl))
termination_by structural xs => xs
theorem unpackMap_reads : (kvs : List (Value × Value)) → ∀ (bs : Bytes) (f : Nat) (d : Dict),
    EncodesPairs kvs bs → wfPairs kvs = true → keysDistinct (kvs.map Prod.fst) = true →
    (∀ p ∈ d, ∀ k ∈ kvs.map Prod.fst, keyEq p.1 k = false) →
    Reads f (fun i => unpackMap f kvs.length i d) bs (d ++ normPairs kvs)
  | [], _, f, d, he, _, _, _ => by
    cases he
    simpa [normPairs] using Reads.congr (fun i => unpackMap_zero f i d) .ok
  | (k, v) :: kvs, _, f, d, he, hw, hkd, hd => by
    cases he with
    | cons _ _ _ a b c hea heb hec =>
      simp only [wfPairs, Bool.and_eq_true] at hw
      obtain ⟨⟨⟨hwk, hhk⟩, hwv⟩, hwr⟩ := hw
      simp only [List.map_cons, keysDistinct, Bool.and_eq_true, List.all_eq_true,
        Bool.not_eq_eq_eq_not, Bool.not_true] at hkd hd
      have hdk : ∀ p ∈ d, keyEq p.1 k = false := fun p hp => hd p hp k List.mem_cons_self
      have hd' : ∀ p ∈ d ++ [(k, normV v)], ∀ k2 ∈ kvs.map Prod.fst, keyEq p.1 k2 = false := by
        intro p hp k2 hk2
        rcases List.mem_append.mp hp with hp | hp
        · exact hd p hp k2 (List.mem_cons_of_mem _ hk2)
        · rw [List.mem_singleton.mp hp]; exact hkd.1 k2 hk2
      have hrest := (unpack_reads v b f heb hwv).bind
        (k := fun (v', r) => unpackMap f kvs.length r (d ++ [(k, v')]))
        (unpackMap_reads kvs c f _ hec hwr hkd.2 hd')
      rw [List.append_assoc]
      simpa [normPairs] using Reads.seq (unpack_reads k a f hea hwk)
        (fun i e h => unpackMap_succ_err h) (fun i r h => unpackMap_succ_key h hhk hdk) hrest
termination_by structural kvs => kvs
end

theorem unpackN_ok : (xs : List Value) → ∀ (bs extra : Bytes) (f : Nat), EncodesList xs bs →
    wfList xs = true → (bs ++ extra).length < f →
    unpackN f xs.length (bs ++ extra) = .ok (normList xs, extra) :=
  fun xs bs extra f he hw hf =>
    (unpackN_reads xs bs f he hw).1 (by rw [List.length_append] at hf; omega) extra

theorem unpackMap_ok : (kvs : List (Value × Value)) → ∀ (bs extra : Bytes) (f : Nat) (d : Dict),
    EncodesPairs kvs bs → wfPairs kvs = true → keysDistinct (kvs.map Prod.fst) = true →
    (∀ p ∈ d, ∀ k ∈ kvs.map Prod.fst, keyEq p.1 k = false) → (bs ++ extra).length < f →
    unpackMap f kvs.length (bs ++ extra) d = .ok (d ++ normPairs kvs, extra) :=
  fun kvs bs extra f d he hw hkd hd hf =>
    (unpackMap_reads kvs bs f d he hw hkd hd).1 (by rw [List.length_append] at hf; omega) extra

theorem unpackN_prefix : (xs : List Value) → ∀ (bs q : Bytes) (f : Nat), EncodesList xs bs →
    wfList xs = true → q <+: bs → q ≠ bs → q.length < f →
    unpackN f xs.length q = .error .insufficient :=
  fun xs bs q f he hw hq hne hf => (unpackN_reads xs bs f he hw).2 q hf hq hne

theorem unpackMap_prefix : (kvs : List (Value × Value)) → ∀ (bs q : Bytes) (f : Nat) (d : Dict),
    EncodesPairs kvs bs → wfPairs kvs = true → keysDistinct (kvs.map Prod.fst) = true →
    (∀ p ∈ d, ∀ k ∈ kvs.map Prod.fst, keyEq p.1 k = false) → q <+: bs → q ≠ bs → q.length < f →
    unpackMap f kvs.length q d = .error .insufficient :=
  fun kvs bs q f d he hw hkd hd hq hne hf => (unpackMap_reads kvs bs f d he hw hkd hd).2 q hf hq hne

end SuppModel.Msgpack
