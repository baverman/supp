/-
  Encoder and decoder together: `pack_valid` feeds `unpack_reads`.
-/
import SuppModel.Msgpack.Encoder
import SuppModel.Msgpack.Decoder
import SuppModel.Msgpack.DecoderPost

namespace SuppModel.Msgpack

theorem loads_of_dumps {v : Value} {bs : Bytes} (h : wf v = true) (hd : dumps v = .ok bs) :
    loads bs = .ok (normV v) := by
  obtain ⟨bs', hd', he, _⟩ := pack_valid v h
  cases hd.symm.trans hd'
  have := (unpack_reads v bs _ he h).1 (Nat.lt_succ_self _) []
  rw [List.append_nil] at this
  unfold loads
  rw [this]; rfl

-- `e'` need not be `e`: the tuple may also be too long
theorem dumps_tup_error {p : Value} {e : Err} (qs : List Value) (h : dumps p = .error e) :
    ∃ e', dumps (.tup (p :: qs)) = .error e' := by
  unfold dumps at h ⊢
  rw [pack_seq (.inr rfl), packList, h, err_bind]
  by_cases hl : (p :: qs).length < 2 ^ 32
  · rw [if_pos hl]; exact ⟨e, rfl⟩
  · rw [if_neg hl]; exact ⟨_, rfl⟩

end SuppModel.Msgpack
