/-
  The generated first-byte table is the specification's: `dispatch = specFamily`, after which
  every fact about a family of codes is arithmetic on the ranges of `specFamily`.  Besides:
  big-endian numbers, two's complement, `readExcept`, `Except` normal forms.
-/
import SuppModel.Msgpack.Spec
namespace SuppModel.Msgpack

theorem dispatch_eq : ∀ b, b < 256 → Generated.dispatch b = specFamily b := by
  decide +kernel

theorem ite_eq_iff' {α} {p : Prop} [Decidable p] {a b x : α} :
    (if p then a else b) = x ↔ (p ∧ a = x) ∨ (¬p ∧ b = x) := by
  by_cases h : p <;> simp [h]

abbrev familyCodes : Generated.Family → Nat → Prop
  | .integer, c => c ≤ 0x7f ∨ (0xcc ≤ c ∧ c ≤ 0xd3) ∨ (0xe0 ≤ c ∧ c ≤ 0xff)
  | .map, c => (0x80 ≤ c ∧ c ≤ 0x8f) ∨ c = 0xde ∨ c = 0xdf
  | .array, c => (0x90 ≤ c ∧ c ≤ 0x9f) ∨ c = 0xdc ∨ c = 0xdd
  | .string, c => (0xa0 ≤ c ∧ c ≤ 0xbf) ∨ (0xd9 ≤ c ∧ c ≤ 0xdb)
  | .nil, c => c = 0xc0
  | .reserved, c => c = 0xc1
  | .boolean, c => c = 0xc2 ∨ c = 0xc3
  | .binary, c => 0xc4 ≤ c ∧ c ≤ 0xc6
  | .ext, c => (0xc7 ≤ c ∧ c ≤ 0xc9) ∨ (0xd4 ≤ c ∧ c ≤ 0xd8)
  | .float, c => c = 0xca ∨ c = 0xcb
  | .missing, c => 0xff < c

theorem specFamily_eq_iff (c : Nat) (F : Generated.Family) :
    specFamily c = F ↔ familyCodes F c := by
  -- the chain becomes a formula of comparisons (`split` on 17 nested `if`s is two orders of
  -- magnitude slower to check)
  simp only [specFamily, ite_eq_iff']
  cases F <;> simp only [reduceCtorEq, and_false, and_true, or_false, false_or] <;> omega

theorem dispatch_eq_iff {c : Nat} (hc : c < 256) (F : Generated.Family) :
    Generated.dispatch c = F ↔ familyCodes F c := by
  rw [dispatch_eq c hc, specFamily_eq_iff]

-- the mask tests of `unpackInteger` and of the `readLen` calls, as ranges
theorem mask_iff : ∀ c, c < 256 →
    (c &&& 0xe0 = 0xe0 ↔ 224 ≤ c) ∧ (c &&& 0x80 = 0 ↔ c < 128) ∧
    (c &&& 0xe0 = 0xa0 ↔ 160 ≤ c ∧ c < 192) ∧ (c &&& 0xf0 = 0x90 ↔ 144 ≤ c ∧ c < 160) ∧
    (c &&& 0xf0 = 0x80 ↔ 128 ≤ c ∧ c < 144) := by decide +kernel

theorem beBytes_length (w n : Nat) : (beBytes w n).length = w := by
  induction w with
  | zero => rfl
  | succ w ih => simp [beBytes, ih]

theorem BytesOK_nil : BytesOK [] := by simp [BytesOK]

theorem BytesOK_cons {b : Nat} {bs : Bytes} : BytesOK (b :: bs) ↔ b < 256 ∧ BytesOK bs := by
  simp [BytesOK]

theorem BytesOK_append {a b : Bytes} : BytesOK (a ++ b) ↔ BytesOK a ∧ BytesOK b := by
  simp only [BytesOK, List.mem_append, or_imp, forall_and]

theorem bytesOK_iff (b : Bytes) : bytesOK b = true ↔ BytesOK b := by
  simp [bytesOK, BytesOK]

theorem beBytes_ok (w n : Nat) : BytesOK (beBytes w n) := by
  induction w with
  | zero => exact BytesOK_nil
  | succ w ih => exact BytesOK_cons.mpr ⟨Nat.mod_lt _ (by decide), ih⟩

theorem beBytes_one (k : Nat) (h : k < 256) : beBytes 1 k = [k] := by
  simp [beBytes]; omega

theorem beVal_beBytes (w n : Nat) : beVal (beBytes w n) = n % 256 ^ w := by
  induction w with
  | zero => simp [beBytes, beVal, Nat.mod_one]
  | succ w ih =>
    simp only [beBytes, beVal, beBytes_length, ih]
    rw [Nat.pow_succ, Nat.mod_mul, Nat.mul_comm, Nat.add_comm]

theorem beVal_beBytes_lt (w n : Nat) (h : n < 256 ^ w) : beVal (beBytes w n) = n := by
  rw [beVal_beBytes, Nat.mod_eq_of_lt h]

theorem beVal_lt (b : Bytes) (h : BytesOK b) : beVal b < 256 ^ b.length := by
  induction b with
  | nil => simp [beVal]
  | cons x xs ih =>
    rw [BytesOK_cons] at h
    have := ih h.2
    have := Nat.mul_le_mul_right (256 ^ xs.length) (Nat.le_of_lt_succ h.1)
    simp only [beVal, List.length_cons, Nat.pow_succ]
    omega

theorem pow256_even {w : Nat} (h : 0 < w) : 256 ^ w = 2 * (256 ^ w / 2) := by
  obtain ⟨k, rfl⟩ : ∃ k, w = k + 1 := ⟨w - 1, by omega⟩
  rw [Nat.pow_succ]; omega

theorem unpackSigned_eq_sInt (b : Bytes) (h : 0 < b.length) : unpackSigned b = sInt b := by
  have := pow256_even h
  simp only [unpackSigned, sInt, Int.ofNat_eq_natCast]
  split <;> split <;> omega

theorem sInt_bounds (b : Bytes) (hok : BytesOK b) (h : 0 < b.length) :
    -((256 ^ b.length / 2 : Nat) : Int) ≤ sInt b ∧ sInt b < (256 ^ b.length / 2 : Nat) := by
  have := beVal_lt b hok
  have := pow256_even h
  rw [sInt]
  split <;> omega

theorem sInt_beBytes (w : Nat) (n : Int) (hw : 0 < w)
    (h1 : -(256 ^ w / 2) ≤ n) (h2 : n < 256 ^ w / 2) :
    sInt (beBytes w (n % 256 ^ w).toNat) = n := by
  have := pow256_even hw
  have hP : (256 : Int) ^ w = (256 ^ w : Nat) := by simp
  rw [sInt, beVal_beBytes, beBytes_length]
  rw [hP] at h1 h2 ⊢
  by_cases hn : 0 ≤ n
  · rw [Int.emod_eq_of_lt hn (by omega), Nat.mod_eq_of_lt (by omega), if_pos (by omega)]
    omega
  · rw [← Int.add_emod_right, Int.emod_eq_of_lt (by omega) (by omega),
      Nat.mod_eq_of_lt (by omega), if_neg (by omega)]
    omega

/-- the integers MessagePack can carry -/
def InRange (n : Int) : Prop := -(2 : Int) ^ 63 ≤ n ∧ n < (2 : Int) ^ 64

theorem readExcept_eq (n : Nat) (inp : Bytes) :
    readExcept n inp =
      if inp.length < n then .error .insufficient else .ok (inp.take n, inp.drop n) := by
  have : min n inp.length < n ↔ inp.length < n := by omega
  simp only [readExcept, List.length_take, this]

theorem readExcept_append (n : Nat) (a r : Bytes) (h : a.length = n) :
    readExcept n (a ++ r) = .ok (a, r) := by
  subst h; simp [readExcept_eq]

theorem readExcept_short (n : Nat) (q : Bytes) (h : q.length < n) :
    readExcept n q = .error .insufficient := by
  simp [readExcept_eq, h]

/- `Except` normal forms.
  Deliberately NOT proved by `rfl`: a `rfl` simp lemma is applied by definitional unfolding, and
  the kernel then re-checks `Except.ok a >>= f ≡ f a` by weak-head normalising `f a`, which can
  drag it into `readExcept (beVal (beBytes 4 n)) r` (unary recursion on `256 ^ 3`). -/

theorem ok_bind {α β} (a : α) (f : α → Except Err β) : (Except.ok a >>= f) = f a := by
  simp only [bind, Except.bind]
theorem err_bind {α β} (e : Err) (f : α → Except Err β) : (Except.error e >>= f) = .error e := by
  simp only [bind, Except.bind]
theorem map_ok {α β} (a : α) (f : α → β) : f <$> (Except.ok a : Except Err α) = .ok (f a) := by
  simp only [Functor.map, Except.map]
theorem map_err {α β} (e : Err) (f : α → β) : f <$> (Except.error e : Except Err α) = .error e := by
  simp only [Functor.map, Except.map]
theorem pure_ok {α} (a : α) : (pure a : Except Err α) = .ok a := by
  simp only [pure, Except.pure]

theorem bind_eq_ok {α β} (x : Except Err α) (f : α → Except Err β) (b : β) :
    (x >>= f) = .ok b ↔ ∃ a, x = .ok a ∧ f a = .ok b := by
  cases x <;> simp [ok_bind, err_bind]

theorem map_eq_ok {α β} (x : Except Err α) (f : α → β) (b : β) :
    (f <$> x) = .ok b ↔ ∃ a, x = .ok a ∧ f a = b := by
  cases x <;> simp [map_ok, map_err]

end SuppModel.Msgpack
