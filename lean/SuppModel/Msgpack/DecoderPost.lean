/-
  What the decoder can do on an arbitrary byte string: every stage either fails with one of
  the decoder's own exceptions or returns a value whose integers are in range and a remainder
  that is a byte string no longer than what it was given.  The "logic error" branches are
  never met, because each stage is only entered on the codes of its family.
-/
import SuppModel.Msgpack.Stages
import SuppModel.Msgpack.Values
namespace SuppModel.Msgpack

/-- the exceptions `umsgpack.unpackb` can actually raise on a `bytes` input -/
def decErr : Err → Bool
  | .insufficient | .invalidString | .reserved | .unhashable | .duplicate | .typeError => true
  | _ => false

theorem decErr_iff (e : Err) : decErr e = true ↔
    (e = .insufficient ∨ e = .invalidString ∨ e = .reserved ∨ e = .unhashable ∨ e = .duplicate ∨
      e = .typeError) := by
  cases e <;> decide

/-- what is left of the input after a stage: a byte string no longer than `n` -/
structure Rem (n : Nat) (r : Bytes) : Prop where
  len : r.length ≤ n
  ok : BytesOK r

/-- post-condition of a decoder stage: a decoder error, or a result satisfying `Q` and a
    remainder no longer than `n` -/
def Good {α} (Q : α → Prop) (n : Nat) (x : Except Err (α × Bytes)) : Prop :=
  match x with
  | .ok (a, r) => Q a ∧ Rem n r
  | .error e => decErr e = true

section
variable {α β : Type} {Q : α → Prop} {Q' : β → Prop} {n : Nat} {x y : Except Err (α × Bytes)}

theorem good_ok {a : α} {r : Bytes} (hq : Q a) (hr : Rem n r) : Good Q n (.ok (a, r)) := ⟨hq, hr⟩

theorem good_err {e : Err} (h : decErr e = true) : Good Q n (.error e) := h

theorem good_mono {m : Nat} (h : Good Q n x) (hnm : n ≤ m) : Good Q m x := by
  cases x with
  | error e => exact h
  | ok p => exact ⟨h.1, Nat.le_trans h.2.len hnm, h.2.ok⟩

theorem good_bind {k : α × Bytes → Except Err (β × Bytes)} (hx : Good Q n x)
    (hk : ∀ a r, Q a → Rem n r → Good Q' n (k (a, r))) : Good Q' n (x >>= k) := by
  cases x with
  | error e => rw [err_bind]; exact hx
  | ok p => rw [ok_bind]; exact hk p.1 p.2 hx.1 hx.2

theorem good_map {g : α → β} (hx : Good Q n x) (hg : ∀ a, Q a → Q' (g a)) :
    Good Q' n (do let (a, r) ← x; pure (g a, r)) :=
  good_bind hx fun a _ ha hr => good_ok (hg a ha) hr

theorem good_ite {p : Prop} [Decidable p] (hx : p → Good Q n x) (hy : ¬p → Good Q n y) :
    Good Q n (if p then x else y) := by
  split
  · exact hx ‹_›
  · exact hy ‹_›

theorem good_readExcept (k : Nat) {inp : Bytes} (h : Rem n inp) :
    Good (fun b => b.length = k ∧ BytesOK b) n (readExcept k inp) := by
  rw [readExcept_eq]
  refine good_ite (fun _ => good_err rfl) fun hk => ?_
  have hsplit := BytesOK_append.mp ((List.take_append_drop k inp).symm ▸ h.ok)
  exact good_ok ⟨by rw [List.length_take]; omega, hsplit.1⟩
    ⟨by rw [List.length_drop]; exact Nat.le_trans (Nat.sub_le ..) h.len, hsplit.2⟩

end

theorem pow256_le {w : Nat} (h : w ≤ 8) : 256 ^ w ≤ 2 ^ 64 :=
  Nat.le_trans (Nat.pow_le_pow_right (by decide) h) (by decide)

theorem unpackUnsigned_range {b : Bytes} (hok : BytesOK b) (hl : b.length ≤ 8) :
    InRange (unpackUnsigned b) := by
  have h1 := beVal_lt b hok
  have h2 := pow256_le hl
  simp only [InRange, unpackUnsigned, Int.ofNat_eq_natCast]
  omega

theorem unpackSigned_range {b : Bytes} (hok : BytesOK b) (h0 : 0 < b.length) (hl : b.length ≤ 8) :
    InRange (unpackSigned b) := by
  have h1 := sInt_bounds b hok h0
  have h2 := pow256_le hl
  rw [unpackSigned_eq_sInt b h0]
  simp only [InRange]
  omega

theorem width_le {c c₀ : Nat} (h : c ≤ c₀ + 3) : 2 ^ (c - c₀) ≤ 8 :=
  Nat.pow_le_pow_right (by decide) (by omega : c - c₀ ≤ 3)

section
variable {c n : Nat} {inp : Bytes} (h : Rem n inp)
include h

theorem unpackInteger_good (hc : familyCodes .integer c) :
    Good InRange n (unpackInteger c inp) := by
  rcases hc with h0 | ⟨h1, h2⟩ | ⟨h1, h2⟩
  · rw [unpackInteger_pos (by omega)]
    exact good_ok (by simp only [InRange]; omega) h
  · -- the width is made a variable before the two `do` blocks are compared
    by_cases hs : c ≤ 0xcf
    · rw [unpackInteger_unsigned h1 hs]
      have hw := width_le (c := c) (c₀ := 0xcc) (by omega)
      generalize 2 ^ (c - 0xcc) = w at hw ⊢
      exact good_map (good_readExcept w h) fun b hb => unpackUnsigned_range hb.2 (hb.1 ▸ hw)
    · rw [unpackInteger_signed (by omega) h2]
      have hw := width_le (c := c) (c₀ := 0xd0) (by omega)
      have h0 : 0 < 2 ^ (c - 0xd0) := Nat.two_pow_pos _
      generalize 2 ^ (c - 0xd0) = w at hw h0 ⊢
      exact good_map (good_readExcept w h) fun b hb =>
        unpackSigned_range hb.2 (hb.1 ▸ h0) (hb.1 ▸ hw)
  · rw [unpackInteger_neg h1 (by omega)]
    exact good_ok (by simp only [InRange]; omega) h

theorem readLen_good {m t l c8 c16 c32 : Nat}
    (hc : (m ≠ 0 ∧ c &&& m = t) ∨ (c8 ≠ 0 ∧ c = c8) ∨ (c16 ≠ 0 ∧ c = c16) ∨ (c32 ≠ 0 ∧ c = c32)) :
    Good (fun _ => True) n (readLen c m t l c8 c16 c32 inp) := by
  have rd (w : Nat) : Good (fun _ : Nat => True) n
      (do let (b, r) ← readExcept w inp; pure (beVal b, r)) :=
    good_map (good_readExcept w h) fun _ _ => trivial
  exact good_ite (fun _ => good_ok trivial h) fun h1 => good_ite (fun _ => rd 1) fun h2 =>
    good_ite (fun _ => rd 2) fun h3 => good_ite (fun _ => rd 4) fun h4 => by
      rcases hc with h | h | h | h <;> contradiction

theorem unpackFloat_good (hc : familyCodes .float c) :
    Good (fun _ => True) n (unpackFloat c inp) := by
  rcases hc with rfl | rfl
  · rw [unpackFloat_32]
    exact good_map (g := fun b => f32to64 (beVal b)) (good_readExcept 4 h) fun _ _ => trivial
  · rw [unpackFloat_64]; exact good_map (good_readExcept 8 h) fun _ _ => trivial

abbrev IntsOK (v : Value) : Prop := intsInRange v = true

theorem unpackString_good (hc : familyCodes .string c) : Good IntsOK n (unpackString c inp) := by
  have hm := (mask_iff c (by omega)).2.2.1
  refine good_bind (readLen_good h (hc.elim (fun h => .inl ⟨by decide, hm.mpr (by omega)⟩)
    (fun h => .inr (by omega)))) fun len r _ hr => ?_
  exact good_bind (good_readExcept len hr) fun p r2 _ hr2 =>
    good_ite (fun _ => good_ok rfl hr2) fun _ => good_err rfl

theorem unpackBinary_good (hc : familyCodes .binary c) : Good IntsOK n (unpackBinary c inp) :=
  good_bind (readLen_good h (.inr (by omega))) fun len _ _ hr =>
    good_bind (good_readExcept len hr) fun _ _ _ hr2 => good_ok rfl hr2

theorem extTail_good (len : Nat) : Good IntsOK n (extTail len inp) :=
  good_bind (good_readExcept 1 h) fun _ _ _ hr1 =>
    good_bind (good_readExcept len hr1) fun _ _ _ hr2 =>
      good_ite (fun _ => good_ok rfl hr2) fun _ => good_err rfl

theorem unpackExt_good (hc : familyCodes .ext c) : Good IntsOK n (unpackExt c inp) := by
  rcases hc with ⟨h1, h2⟩ | ⟨h1, h2⟩
  · rw [unpackExt_wide h1 h2]
    exact good_bind (readLen_good h (.inr (by omega))) fun len _ _ hr => extTail_good hr len
  · rw [unpackExt_fix h1 h2]
    exact extTail_good h _

end

-- the loops, given the post-condition of `unpack` at the same fuel
section
variable (f : Nat) (ih : ∀ m inp, Rem m inp → m < f → Good IntsOK m (unpack f inp))
  {m : Nat} (hf : m < f) (n : Nat) {inp : Bytes} (h : Rem m inp)
include ih hf h

theorem unpackN_good : Good (fun xs => intsInRangeList xs = true) m (unpackN f n inp) := by
  induction n generalizing inp with
  | zero => rw [unpackN_zero]; exact good_ok rfl h
  | succ n ihn =>
    rw [unpackN_succ]
    exact good_bind (ih m inp h hf) fun v r hv hr => good_bind (ihn hr) fun vs r2 hvs hr2 =>
      good_ok (by rw [intsInRangeList, hv, hvs]; rfl) hr2

theorem unpackMap_good {d : Dict} (hd : intsInRangePairs d = true) :
    Good (fun d' => intsInRangePairs d' = true) m (unpackMap f n inp d) := by
  induction n generalizing inp d with
  | zero => rw [unpackMap_zero]; exact good_ok hd h
  | succ n ihn =>
    rw [unpackMap_succ]
    refine good_bind (ih m inp h hf) fun k r hk hr => ?_
    have hval {k'} (hk' : IntsOK k') (v r2) (hv : IntsOK v) (hr2 : Rem m r2) :=
      ihn hr2 (dictSet_range d k' v hd hk' hv)
    simp only []
    split
    · exact good_bind (ih m r hr hf) fun v r2 hv hr2 =>
        good_ite (fun _ => hval ((intsInRange_deepTuple (.arr _)).trans hk) v r2 hv hr2)
          fun _ => good_err rfl
    · exact good_ite (fun _ => good_err rfl) fun _ => good_ite (fun _ => good_err rfl) fun _ =>
        good_bind (ih m r hr hf) (hval hk)

end

theorem unpack_good : ∀ f m inp, Rem m inp → m < f → Good IntsOK m (unpack f inp) := by
  intro f
  induction f with
  | zero => intro m inp _ h; omega
  | succ f ih =>
    intro m inp h hf
    cases inp with
    | nil => rw [unpack_nil]; exact good_err rfl
    | cons c rest =>
      obtain ⟨hc, hrest⟩ := BytesOK_cons.mp h.ok
      have hm : rest.length + 1 ≤ m := h.len
      have hr : Rem rest.length rest := ⟨Nat.le_refl _, hrest⟩
      have hf' : rest.length < f := by omega
      rw [unpack_cons rest rfl]
      refine good_mono ?_ (by omega : rest.length ≤ m)
      cases hd : Generated.dispatch c <;> have hcodes := (dispatch_eq_iff hc _).mp hd
      case integer =>
        exact good_map (unpackInteger_good hr hcodes) fun n hn => by
          simpa [IntsOK, intsInRange, InRange] using hn
      case nil => rw [stage, if_pos hcodes]; exact good_ok rfl hr
      case reserved => rw [stage, if_pos hcodes]; exact good_err rfl
      case missing => exact absurd hc (by have : 255 < c := hcodes; omega)
      case boolean => rcases hcodes with rfl | rfl <;> exact good_ok rfl hr
      case float => exact good_map (unpackFloat_good hr hcodes) fun _ _ => rfl
      case string => exact unpackString_good hr hcodes
      case binary => exact unpackBinary_good hr hcodes
      case ext => exact unpackExt_good hr hcodes
      case array =>
        have hm := (mask_iff c hc).2.2.2.1
        refine good_bind (readLen_good hr (hcodes.elim
          (fun h => .inl ⟨by decide, hm.mpr (by omega)⟩) (fun h => .inr (.inr (by omega)))))
          fun len r _ hr => ?_
        exact good_map (unpackN_good f ih hf' len hr) fun xs hxs => hxs
      case map =>
        have hm := (mask_iff c hc).2.2.2.2
        refine good_bind (readLen_good hr (hcodes.elim
          (fun h => .inl ⟨by decide, hm.mpr (by omega)⟩) (fun h => .inr (.inr (by omega)))))
          fun len r _ hr => ?_
        exact good_map (unpackMap_good f ih hf' len hr rfl) fun d hd' => hd'

theorem loads_good (bs : Bytes) (hb : BytesOK bs) :
    match loads bs with
    | .ok v => intsInRange v = true
    | .error e => decErr e = true := by
  have hg := unpack_good (bs.length + 1) bs.length bs ⟨Nat.le_refl _, hb⟩ (Nat.lt_succ_self _)
  unfold loads
  generalize unpack (bs.length + 1) bs = x at hg ⊢
  cases x with
  | error e => exact hg
  | ok p => exact hg.1

end SuppModel.Msgpack
