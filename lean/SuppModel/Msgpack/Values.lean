/-
  Facts about `Value`s that do not involve bytes: normalisation, dict keys, dict insertion.
-/
import SuppModel.Msgpack.Spec
namespace SuppModel.Msgpack

mutual
theorem normV_of_tupFree : (v : Value) → tupFree v = true → normV v = v
  | .arr xs, h => by simp [tupFree] at h; simp [normV, normList_of_tupFree xs h]
  | .map kvs, h => by simp [tupFree] at h; simp [normV, normPairs_of_tupFree kvs h]
  | .tup _, h => by simp [tupFree] at h
  | .nil, _ | .bool _, _ | .int _, _ | .float _, _ | .str _, _ | .bin _, _ | .ext _ _, _
  | .opaque, _ => by simp [normV]
theorem normList_of_tupFree : (xs : List Value) → tupFreeList xs = true → normList xs = xs
  | [], _ => by simp [normList]
  | x :: xs, h => by
    simp [tupFreeList] at h
    simp [normList, normV_of_tupFree x h.1, normList_of_tupFree xs h.2]
theorem normPairs_of_tupFree : (kvs : List (Value × Value)) → tupFreePairs kvs = true →
    normPairs kvs = kvs
  | [], _ => by simp [normPairs]
  | (k, v) :: kvs, h => by
    simp [tupFreePairs] at h
    simp [normPairs, normV_of_tupFree v h.1, normPairs_of_tupFree kvs h.2]
end

-- a hashable key comes back from the decoder as itself, or, for a tuple, as a list that
-- `_deep_list_to_tuple` turns back into the tuple

mutual
theorem deepTuple_normV : (v : Value) → hashable v = true → deepTuple (normV v) = v
  | .nil, _ | .bool _, _ | .int _, _ | .float _, _ | .str _, _ | .bin _, _ => by simp [normV, deepTuple]
  | .tup xs, h => by
    simp [hashable] at h
    simp [normV, deepTuple, deepTupleList_normList xs h]
  | .arr _, h | .map _, h | .ext _ _, h | .opaque, h => by simp [hashable] at h
theorem deepTupleList_normList : (xs : List Value) → hashableList xs = true →
    deepTupleList (normList xs) = xs
  | [], _ => by simp [normList, deepTupleList]
  | x :: xs, h => by
    simp [hashableList] at h
    simp [normList, deepTupleList, deepTuple_normV x h.1, deepTupleList_normList xs h.2]
end

mutual
theorem intsInRange_deepTuple : (v : Value) → intsInRange (deepTuple v) = intsInRange v
  | .arr xs => by simp [deepTuple, intsInRange, intsInRangeList_deepTupleList xs]
  | .nil | .bool _ | .int _ | .float _ | .str _ | .bin _ | .tup _ | .map _ | .ext _ _ | .opaque => by
    simp [deepTuple]
theorem intsInRangeList_deepTupleList : (xs : List Value) →
    intsInRangeList (deepTupleList xs) = intsInRangeList xs
  | [] => by simp [deepTupleList]
  | x :: xs => by
    simp [deepTupleList, intsInRangeList, intsInRange_deepTuple x, intsInRangeList_deepTupleList xs]
end

theorem dictHas_false (d : Dict) (k : Value) (h : ∀ p ∈ d, keyEq p.1 k = false) :
    dictHas d k = false := by
  rw [dictHas, List.any_eq_false]
  exact fun p hp => by rw [h p hp]; decide

theorem dictSet_append (d : Dict) (k v : Value) (h : ∀ p ∈ d, keyEq p.1 k = false) :
    dictSet d k v = d ++ [(k, v)] := by
  induction d with
  | nil => rfl
  | cons p t ih =>
    obtain ⟨k', v'⟩ := p
    have h1 : keyEq k' k = false := h (k', v') List.mem_cons_self
    simp [dictSet, h1, ih fun p hp => h p (List.mem_cons_of_mem _ hp)]

theorem dictSet_range (d : Dict) (k v : Value) (hd : intsInRangePairs d = true)
    (hk : intsInRange k = true) (hv : intsInRange v = true) :
    intsInRangePairs (dictSet d k v) = true := by
  induction d with
  | nil => simp [dictSet, intsInRangePairs, hk, hv]
  | cons p t ih =>
    obtain ⟨k', v'⟩ := p
    simp [intsInRangePairs] at hd
    simp only [dictSet]
    split
    · simp [intsInRangePairs, hd, hv]
    · simp [intsInRangePairs, hd, ih hd.2]

end SuppModel.Msgpack
