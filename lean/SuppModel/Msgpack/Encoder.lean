/-
  The encoder.  Each generated format-selection chain is brought once into a closed form
  (`packX … = if <in range> then .ok (<header> ++ payload) else .error .unsupported`); that the
  output is a legal encoding, that the only failure is `UnsupportedTypeException`, and that no
  legal encoding is shorter are then read off the closed forms.
-/
import SuppModel.Msgpack.Bytes
namespace SuppModel.Msgpack

theorem packSigned_ok (w : Nat) (n : Int) (h1 : -(256 ^ w / 2) ≤ n) (h2 : n < 256 ^ w / 2) :
    packSigned w n = .ok (beBytes w (n % 256 ^ w).toNat) := by
  simp [packSigned, h1, h2]

theorem packUnsigned_ok (w : Nat) (n : Int) (h1 : 0 ≤ n) (h2 : n < 256 ^ w) :
    packUnsigned w n = .ok (beBytes w n.toNat) := by
  simp [packUnsigned, h1, h2]

theorem packUnsigned_nat (w k : Nat) (h : k < 256 ^ w) :
    packUnsigned w (k : Int) = .ok (beBytes w k) := by
  have : (k : Int) < 256 ^ w := by
    have : ((k : Nat) : Int) < ((256 ^ w : Nat) : Int) := Int.ofNat_lt.mpr h
    simpa using this
  rw [packUnsigned_ok w _ (Int.natCast_nonneg k) this]; rfl

theorem catBytes_nil : catBytes [] = .ok [] := rfl

theorem catBytes_one (a : Except Err Bytes) : catBytes [a] = a := by
  cases a <;> simp [catBytes, bind, Except.bind, pure, Except.pure]

theorem catBytes_ok (a : Bytes) (ps) : catBytes (.ok a :: ps) = (catBytes ps).map (a ++ ·) := by
  cases h : catBytes ps <;> simp [catBytes, bind, Except.bind, pure, Except.pure, h, Except.map]

theorem catBytes_three (a b c : Bytes) : catBytes [.ok a, .ok b, .ok c] = .ok (a ++ (b ++ c)) := by
  rw [catBytes_ok, catBytes_ok, catBytes_one]; rfl

/-- `a | k` adds when `k` fits below the lowest set bit of `a` -/
theorem orNat_eq {a k : Nat} (i : Nat) (ha : a % 2 ^ i = 0) (hk : k < 2 ^ i) :
    orNat a (k : Int) = ((a + k : Nat) : Int) := by
  have h := Nat.two_pow_add_eq_or_of_lt hk (a / 2 ^ i)
  rw [Nat.mul_div_cancel' (Nat.dvd_of_mod_eq_zero ha)] at h
  simp [orNat, h]

def lenHdr16 (c16 c32 k : Nat) : Bytes :=
  if k < 2 ^ 16 then c16 :: beBytes 2 k else c32 :: beBytes 4 k

def lenHdr (c8 c16 c32 k : Nat) : Bytes :=
  if k < 2 ^ 8 then c8 :: beBytes 1 k else lenHdr16 c16 c32 k

theorem lenChain16 (k c16 c32 : Nat) (rest : List (Except Err Bytes)) :
    (if (k : Int) ≤ 65535 then catBytes (.ok [c16] :: packU16 k :: rest)
     else if (k : Int) ≤ 4294967295 then catBytes (.ok [c32] :: packU32 k :: rest)
     else .error .unsupported) =
    if k < 2 ^ 32 then (catBytes rest).map (lenHdr16 c16 c32 k ++ ·) else .error .unsupported := by
  unfold lenHdr16
  by_cases h1 : (k : Int) ≤ 65535
  · rw [if_pos h1, if_pos (by omega), if_pos (by omega), catBytes_ok, packU16,
      packUnsigned_nat 2 k (by omega), catBytes_ok]
    cases catBytes rest <;> rfl
  rw [if_neg h1]
  by_cases h2 : (k : Int) ≤ 4294967295
  · rw [if_pos h2, if_pos (by omega), if_neg (by omega), catBytes_ok, packU32,
      packUnsigned_nat 4 k (by omega), catBytes_ok]
    cases catBytes rest <;> rfl
  · rw [if_neg h2, if_neg (by omega)]

theorem lenChain (k c8 c16 c32 : Nat) (rest : List (Except Err Bytes)) :
    (if (k : Int) ≤ 255 then catBytes (.ok [c8] :: packU8 k :: rest)
     else if (k : Int) ≤ 65535 then catBytes (.ok [c16] :: packU16 k :: rest)
     else if (k : Int) ≤ 4294967295 then catBytes (.ok [c32] :: packU32 k :: rest)
     else .error .unsupported) =
    if k < 2 ^ 32 then (catBytes rest).map (lenHdr c8 c16 c32 k ++ ·) else .error .unsupported := by
  unfold lenHdr
  by_cases h1 : (k : Int) ≤ 255
  · rw [if_pos h1, if_pos (by omega), if_pos (by omega), catBytes_ok, packU8,
      packUnsigned_nat 1 k (by omega), catBytes_ok]
    cases catBytes rest <;> rfl
  · rw [if_neg h1, lenChain16, if_neg (show ¬k < 2 ^ 8 by omega)]

theorem lenHdr16_cases (c16 c32 k : Nat) :
    (k < 2 ^ 16 ∧ lenHdr16 c16 c32 k = c16 :: beBytes 2 k) ∨
    (2 ^ 16 ≤ k ∧ lenHdr16 c16 c32 k = c32 :: beBytes 4 k) := by
  unfold lenHdr16
  by_cases h : k < 2 ^ 16
  · exact .inl ⟨h, if_pos h⟩
  · exact .inr ⟨by omega, if_neg h⟩

theorem lenHdr_cases (c8 c16 c32 k : Nat) :
    (k < 2 ^ 8 ∧ lenHdr c8 c16 c32 k = c8 :: beBytes 1 k) ∨
    (2 ^ 8 ≤ k ∧ k < 2 ^ 16 ∧ lenHdr c8 c16 c32 k = c16 :: beBytes 2 k) ∨
    (2 ^ 16 ≤ k ∧ lenHdr c8 c16 c32 k = c32 :: beBytes 4 k) := by
  unfold lenHdr
  by_cases h : k < 2 ^ 8
  · exact .inl ⟨h, if_pos h⟩
  · rw [if_neg h]
    rcases lenHdr16_cases c16 c32 k with ⟨h16, e⟩ | he
    · exact .inr (.inl ⟨by omega, h16, e⟩)
    · exact .inr (.inr he)

theorem packBinary_eq (k : Nat) (p : Bytes) : Generated.packBinary k p =
    if k < 2 ^ 32 then .ok (lenHdr 0xc4 0xc5 0xc6 k ++ p) else .error .unsupported := by
  unfold Generated.packBinary
  rw [lenChain, catBytes_one]; rfl

/-- header of `_pack_string` -/
def strHdr (k : Nat) : Bytes := if k < 32 then [0xa0 + k] else lenHdr 0xd9 0xda 0xdb k

theorem packString_eq (k : Nat) (p : Bytes) : Generated.packString k p =
    if k < 2 ^ 32 then .ok (strHdr k ++ p) else .error .unsupported := by
  unfold Generated.packString strHdr
  by_cases h : (k : Int) ≤ 31
  · rw [if_pos h, if_pos (show k < 2 ^ 32 by omega), if_pos (show k < 32 by omega),
      orNat_eq 5 rfl (by omega), packU8, packUnsigned_nat 1 _ (by omega), beBytes_one _ (by omega),
      catBytes_ok, catBytes_one]
    rfl
  · rw [if_neg h, lenChain, catBytes_one, if_neg (show ¬k < 32 by omega)]; rfl

/-- header of `_pack_array` / `_pack_map`: the count in the low bits of `a`, or after `c16` / `c32` -/
def cntHdr (a c16 c32 k : Nat) : Bytes := if k < 16 then [a + k] else lenHdr16 c16 c32 k

theorem cntChain (a c16 c32 k : Nat) (ha : a % 2 ^ 4 = 0) (h256 : a + 15 < 256) :
    (if (k : Int) ≤ 15 then catBytes [packU8 (orNat a k)]
     else if (k : Int) ≤ 65535 then catBytes [.ok [c16], packU16 k]
     else if (k : Int) ≤ 4294967295 then catBytes [.ok [c32], packU32 k]
     else .error .unsupported) =
    if k < 2 ^ 32 then .ok (cntHdr a c16 c32 k) else .error .unsupported := by
  unfold cntHdr
  by_cases h : (k : Int) ≤ 15
  · rw [if_pos h, if_pos (show k < 2 ^ 32 by omega), if_pos (show k < 16 by omega),
      orNat_eq 4 ha (by omega), packU8, packUnsigned_nat 1 _ (by omega), beBytes_one _ (by omega),
      catBytes_one]
  · rw [if_neg h, lenChain16, catBytes_nil, if_neg (show ¬k < 16 by omega)]
    simp only [Except.map, List.append_nil]

theorem packArrayHeader_eq (k : Nat) : Generated.packArrayHeader k =
    if k < 2 ^ 32 then .ok (cntHdr 0x90 0xdc 0xdd k) else .error .unsupported := by
  unfold Generated.packArrayHeader
  exact cntChain 144 220 221 k rfl (by decide)

theorem packMapHeader_eq (k : Nat) : Generated.packMapHeader k =
    if k < 2 ^ 32 then .ok (cntHdr 0x80 0xde 0xdf k) else .error .unsupported := by
  unfold Generated.packMapHeader
  exact cntChain 128 222 223 k rfl (by decide)

/-- header of `_pack_ext_type`, without the type byte -/
def extHdr (k : Nat) : Bytes :=
  if k = 1 then [0xd4] else if k = 2 then [0xd5] else if k = 4 then [0xd6]
  else if k = 8 then [0xd7] else if k = 16 then [0xd8] else lenHdr 0xc7 0xc8 0xc9 k

-- one `if len == a` test of the fixext part of the chain; `X` is the rest of the chain
theorem fixext_step {k a code t : Nat} {p H : Bytes} {X : Except Err Bytes} (ha : a < 2 ^ 32)
    (hX : X = if k < 2 ^ 32 then .ok (H ++ t :: p) else .error .unsupported) :
    (if (k : Int) = (a : Nat) then catBytes [.ok [code], .ok [t], .ok p] else X) =
      if k < 2 ^ 32 then .ok ((if k = a then [code] else H) ++ t :: p) else .error .unsupported := by
  by_cases h : k = a
  · rw [if_pos (by omega), if_pos (by omega), if_pos h, catBytes_three]; rfl
  · rw [if_neg (by omega), if_neg h, hX]

theorem packExt_eq (k : Nat) (ty : Int) (p : Bytes) : Generated.packExt k ty p =
    if k < 2 ^ 32 then .ok (extHdr k ++ (ty % 256).toNat :: p) else .error .unsupported := by
  have hty : packU8 (ty % 256) = .ok [(ty % 256).toNat] := by
    rw [packU8, packUnsigned_ok 1 _ (by omega) (by omega), beBytes_one _ (by omega)]
  unfold Generated.packExt extHdr
  rw [hty]
  refine fixext_step (a := 1) (by decide) (fixext_step (a := 2) (by decide) (fixext_step (a := 4)
    (by decide) (fixext_step (a := 8) (by decide) (fixext_step (a := 16) (by decide) ?_))))
  rw [lenChain, catBytes_ok, catBytes_one]
  rfl

theorem strHdr_cases (k : Nat) :
    (k < 32 ∧ strHdr k = [0xa0 + k]) ∨ (32 ≤ k ∧ k < 2 ^ 8 ∧ strHdr k = 0xd9 :: beBytes 1 k) ∨
    (2 ^ 8 ≤ k ∧ k < 2 ^ 16 ∧ strHdr k = 0xda :: beBytes 2 k) ∨
    (2 ^ 16 ≤ k ∧ strHdr k = 0xdb :: beBytes 4 k) := by
  unfold strHdr
  by_cases h : k < 32
  · exact .inl ⟨h, if_pos h⟩
  · rw [if_neg h]
    rcases lenHdr_cases 0xd9 0xda 0xdb k with ⟨h8, e⟩ | he
    · exact .inr (.inl ⟨by omega, h8, e⟩)
    · exact .inr (.inr he)

theorem cntHdr_cases (a c16 c32 k : Nat) :
    (k < 16 ∧ cntHdr a c16 c32 k = [a + k]) ∨
    (16 ≤ k ∧ k < 2 ^ 16 ∧ cntHdr a c16 c32 k = c16 :: beBytes 2 k) ∨
    (2 ^ 16 ≤ k ∧ cntHdr a c16 c32 k = c32 :: beBytes 4 k) := by
  unfold cntHdr
  by_cases h : k < 16
  · exact .inl ⟨h, if_pos h⟩
  · rw [if_neg h]
    rcases lenHdr16_cases c16 c32 k with ⟨h16, e⟩ | he
    · exact .inr (.inl ⟨by omega, h16, e⟩)
    · exact .inr (.inr he)

theorem extHdr_cases (k : Nat) :
    (¬(k = 1 ∨ k = 2 ∨ k = 4 ∨ k = 8 ∨ k = 16) ∧ extHdr k = lenHdr 0xc7 0xc8 0xc9 k) ∨
    (k = 1 ∧ extHdr k = [0xd4]) ∨ (k = 2 ∧ extHdr k = [0xd5]) ∨ (k = 4 ∧ extHdr k = [0xd6]) ∨
    (k = 8 ∧ extHdr k = [0xd7]) ∨ (k = 16 ∧ extHdr k = [0xd8]) := by
  unfold extHdr
  repeat' split
  all_goals simp [*]

theorem lenHdr_ok {c8 c16 c32 : Nat} (k : Nat) (h8 : c8 < 256 := by decide)
    (h16 : c16 < 256 := by decide) (h32 : c32 < 256 := by decide) :
    BytesOK (lenHdr c8 c16 c32 k) := by
  rcases lenHdr_cases c8 c16 c32 k with ⟨_, e⟩ | ⟨_, _, e⟩ | ⟨_, e⟩ <;> rw [e] <;>
    exact BytesOK_cons.mpr ⟨‹_›, beBytes_ok _ _⟩

theorem strHdr_ok (k : Nat) : BytesOK (strHdr k) := by
  unfold strHdr; split
  · exact BytesOK_cons.mpr ⟨by omega, BytesOK_nil⟩
  · exact lenHdr_ok k

theorem cntHdr_ok {a c16 c32 : Nat} (k : Nat) (ha : a + 15 < 256 := by decide)
    (h16 : c16 < 256 := by decide) (h32 : c32 < 256 := by decide) :
    BytesOK (cntHdr a c16 c32 k) := by
  rcases cntHdr_cases a c16 c32 k with ⟨_, e⟩ | ⟨_, _, e⟩ | ⟨_, e⟩ <;> rw [e]
  · exact BytesOK_cons.mpr ⟨by omega, BytesOK_nil⟩
  all_goals exact BytesOK_cons.mpr ⟨‹_›, beBytes_ok _ _⟩

theorem extHdr_ok (k : Nat) : BytesOK (extHdr k) := by
  rcases extHdr_cases k with ⟨_, e⟩ | ⟨_, e⟩ | ⟨_, e⟩ | ⟨_, e⟩ | ⟨_, e⟩ | ⟨_, e⟩ <;> rw [e]
  all_goals first | exact lenHdr_ok k | decide

theorem encodes_bin (p : Bytes) (h : p.length < 2 ^ 32) :
    Encodes (.bin p) (lenHdr 0xc4 0xc5 0xc6 p.length ++ p) := by
  rcases lenHdr_cases 0xc4 0xc5 0xc6 p.length with ⟨h8, e⟩ | ⟨_, h16, e⟩ | ⟨_, e⟩ <;> rw [e]
  · exact .bin8 p h8
  · exact .bin16 p h16
  · exact .bin32 p h

theorem encodes_str (p : Bytes) (h : p.length < 2 ^ 32) : Encodes (.str p) (strHdr p.length ++ p) := by
  rcases strHdr_cases p.length with ⟨hf, e⟩ | ⟨_, h8, e⟩ | ⟨_, h16, e⟩ | ⟨_, e⟩ <;> rw [e]
  · exact .fixstr p hf
  · exact .str8 p h8
  · exact .str16 p h16
  · exact .str32 p h

theorem encodes_ext (t : Nat) (p : Bytes) (h : p.length < 2 ^ 32) :
    Encodes (.ext t p) (extHdr p.length ++ t :: p) := by
  rcases extHdr_cases p.length with ⟨_, e⟩ | ⟨h, e⟩ | ⟨h, e⟩ | ⟨h, e⟩ | ⟨h, e⟩ | ⟨h, e⟩ <;> rw [e]
  · rcases lenHdr_cases 0xc7 0xc8 0xc9 p.length with ⟨h8, e⟩ | ⟨_, h16, e⟩ | ⟨_, e⟩ <;> rw [e]
    · exact .ext8 t p h8
    · exact .ext16 t p h16
    · exact .ext32 t p h
  · exact .fixext1 t p h
  · exact .fixext2 t p h
  · exact .fixext4 t p h
  · exact .fixext8 t p h
  · exact .fixext16 t p h

/-- lists and tuples are encoded alike -/
theorem encodes_seq {v : Value} {xs : List Value} (hv : v = .arr xs ∨ v = .tup xs) (bs : Bytes)
    (h : xs.length < 2 ^ 32) (he : EncodesList xs bs) :
    Encodes v (cntHdr 0x90 0xdc 0xdd xs.length ++ bs) := by
  rcases cntHdr_cases 0x90 0xdc 0xdd xs.length with ⟨hf, e⟩ | ⟨_, h16, e⟩ | ⟨_, e⟩ <;> rw [e] <;>
    rcases hv with rfl | rfl
  · exact .fixarr xs bs hf he
  · exact .fixtup xs bs hf he
  · exact .arr16 xs bs h16 he
  · exact .tup16 xs bs h16 he
  · exact .arr32 xs bs h he
  · exact .tup32 xs bs h he

theorem encodes_map (kvs : List (Value × Value)) (bs : Bytes) (h : kvs.length < 2 ^ 32)
    (he : EncodesPairs kvs bs) : Encodes (.map kvs) (cntHdr 0x80 0xde 0xdf kvs.length ++ bs) := by
  rcases cntHdr_cases 0x80 0xde 0xdf kvs.length with ⟨hf, e⟩ | ⟨_, h16, e⟩ | ⟨_, e⟩ <;> rw [e]
  · exact .fixmap kvs bs hf he
  · exact .map16 kvs bs h16 he
  · exact .map32 kvs bs h he

theorem str_minimal {p bs : Bytes} (he : Encodes (.str p) bs) :
    (strHdr p.length ++ p).length ≤ bs.length := by
  rcases strHdr_cases p.length with ⟨_, e⟩ | ⟨_, _, e⟩ | ⟨_, _, e⟩ | ⟨_, e⟩ <;> rw [e] <;> cases he <;>
    simp only [List.length_append, List.length_cons, List.length_nil, beBytes_length] <;> omega

theorem bin_minimal {p bs : Bytes} (he : Encodes (.bin p) bs) :
    (lenHdr 0xc4 0xc5 0xc6 p.length ++ p).length ≤ bs.length := by
  rcases lenHdr_cases 0xc4 0xc5 0xc6 p.length with ⟨_, e⟩ | ⟨_, _, e⟩ | ⟨_, e⟩ <;> rw [e] <;> cases he <;>
    simp only [List.length_append, List.length_cons, beBytes_length] <;> omega

theorem ext_minimal {ty : Int} {t : Nat} {p bs : Bytes} (he : Encodes (.ext ty p) bs) :
    (extHdr p.length ++ t :: p).length ≤ bs.length := by
  rcases extHdr_cases p.length with ⟨_, e⟩ | ⟨_, e⟩ | ⟨_, e⟩ | ⟨_, e⟩ | ⟨_, e⟩ | ⟨_, e⟩ <;> rw [e]
  rcases lenHdr_cases 0xc7 0xc8 0xc9 p.length with ⟨_, e⟩ | ⟨_, _, e⟩ | ⟨_, e⟩ <;> rw [e]
  all_goals cases he <;> simp only [List.length_append, List.length_cons, List.length_nil, beBytes_length] <;> omega

theorem seq_minimal {v : Value} {xs : List Value} {bs : Bytes} (hv : v = .arr xs ∨ v = .tup xs)
    (he : Encodes v bs) :
    ∃ bs', EncodesList xs bs' ∧ (cntHdr 0x90 0xdc 0xdd xs.length).length + bs'.length ≤ bs.length := by
  rcases cntHdr_cases 0x90 0xdc 0xdd xs.length with ⟨_, e⟩ | ⟨_, _, e⟩ | ⟨_, e⟩ <;> rw [e] <;>
    rcases hv with rfl | rfl <;> cases he <;> refine ⟨_, ‹EncodesList _ _›, ?_⟩ <;>
    simp only [List.length_append, List.length_cons, List.length_nil, beBytes_length] <;> omega

theorem map_minimal {kvs : List (Value × Value)} {bs : Bytes} (he : Encodes (.map kvs) bs) :
    ∃ bs', EncodesPairs kvs bs' ∧ (cntHdr 0x80 0xde 0xdf kvs.length).length + bs'.length ≤ bs.length := by
  rcases cntHdr_cases 0x80 0xde 0xdf kvs.length with ⟨_, e⟩ | ⟨_, _, e⟩ | ⟨_, e⟩ <;> rw [e] <;>
    cases he <;> refine ⟨_, ‹EncodesPairs _ _›, ?_⟩ <;>
    simp only [List.length_append, List.length_cons, List.length_nil, beBytes_length] <;> omega

theorem int_length {n : Int} {bs : Bytes} (he : Encodes (.int n) bs) :
    (bs.length = 1 ∧ -32 ≤ n ∧ n ≤ 127) ∨ (bs.length = 2 ∧ -128 ≤ n ∧ n ≤ 255) ∨
    (bs.length = 3 ∧ -32768 ≤ n ∧ n ≤ 65535) ∨
    (bs.length = 5 ∧ -2147483648 ≤ n ∧ n ≤ 4294967295) ∨ (bs.length = 9 ∧ InRange n) := by
  unfold InRange
  cases he with
  | posfix k h => exact .inl ⟨rfl, by omega, by omega⟩
  | negfix k h1 h2 => exact .inl ⟨rfl, by omega, by omega⟩
  | uint8 b hl hok | uint16 b hl hok | uint32 b hl hok | uint64 b hl hok =>
    have hb := beVal_lt b hok
    rw [hl] at hb
    rw [List.length_cons, hl]
    omega
  | int8 b hl hok | int16 b hl hok | int32 b hl hok | int64 b hl hok =>
    have hb := sInt_bounds b hok (by omega)
    rw [hl] at hb
    rw [List.length_cons, hl]
    omega

/-- `L` is at most the length of every legal encoding of `n` (the hypothesis is linear
    arithmetic from the guards of a leaf) -/
theorem int_minimal {n : Int} {L : Nat}
    (h : (-32 ≤ n ∧ n ≤ 127 → L ≤ 1) ∧ (-128 ≤ n ∧ n ≤ 255 → L ≤ 2) ∧
      (-32768 ≤ n ∧ n ≤ 65535 → L ≤ 3) ∧ (-2147483648 ≤ n ∧ n ≤ 4294967295 → L ≤ 5) ∧ L ≤ 9)
    {bs : Bytes} (he : Encodes (.int n) bs) : L ≤ bs.length := by
  have := int_length he
  omega

/-- what `_pack_integer` does: a shortest legal encoding, or out of range -/
def IntSpec (n : Int) (x : Except Err Bytes) : Prop :=
  (∃ bs, x = .ok bs ∧ Encodes (.int n) bs ∧ BytesOK bs ∧
    ∀ bs', Encodes (.int n) bs' → bs.length ≤ bs'.length) ∨
  (x = .error .unsupported ∧ ¬InRange n)

/-- a leaf `code ++ struct.pack(fmt, n)` of the chain: `struct.pack` returns `w` bytes which the
    format `code` reads back (`val`) as `n` -/
theorem IntSpec.leaf {n : Int} {code w m : Nat} {x : Except Err Bytes} {val : Bytes → Int}
    (hx : x = .ok (beBytes w m)) (hval : val (beBytes w m) = n)
    (henc : ∀ b, b.length = w → BytesOK b → Encodes (.int (val b)) (code :: b))
    (hmin : ∀ {bs'}, Encodes (.int n) bs' → w + 1 ≤ bs'.length) (hc : code < 256) :
    IntSpec n (catBytes [.ok [code], x]) :=
  .inl ⟨code :: beBytes w m, by rw [hx, catBytes_ok, catBytes_one]; rfl,
    hval ▸ henc _ (beBytes_length w m) (beBytes_ok w m), BytesOK_cons.mpr ⟨hc, beBytes_ok w m⟩,
    fun _ h => by rw [List.length_cons, beBytes_length]; exact hmin h⟩

theorem IntSpec.signed {n : Int} {code w : Nat} (h1 : -(256 ^ w / 2) ≤ n) (h2 : n < 256 ^ w / 2)
    (henc : ∀ b, b.length = w → BytesOK b → Encodes (.int (sInt b)) (code :: b))
    (hmin : ∀ {bs'}, Encodes (.int n) bs' → w + 1 ≤ bs'.length)
    (hw : 0 < w := by decide) (hc : code < 256 := by decide) :
    IntSpec n (catBytes [.ok [code], packSigned w n]) :=
  .leaf (packSigned_ok w n h1 h2) (sInt_beBytes w n hw h1 h2) henc hmin hc

theorem IntSpec.unsigned {k code w : Nat} (h : k < 256 ^ w)
    (henc : ∀ b, b.length = w → BytesOK b → Encodes (.int (beVal b : Nat)) (code :: b))
    (hmin : ∀ {bs'}, Encodes (.int k) bs' → w + 1 ≤ bs'.length) (hc : code < 256 := by decide) :
    IntSpec k (catBytes [.ok [code], packUnsigned w k]) :=
  .leaf (packUnsigned_nat w k h) (congrArg _ (beVal_beBytes_lt w k h)) henc hmin hc

theorem packInteger_spec (n : Int) : IntSpec n (Generated.packInteger n) := by
  unfold Generated.packInteger
  by_cases h0 : n < 0
  · rw [if_pos h0]
    by_cases h1 : n ≥ -32
    · -- negative fixint: the one byte `struct.pack('b', n)` returns is the encoding
      rw [if_pos h1, catBytes_one, packI8, packSigned_ok 1 n (by omega) (by omega), beBytes_one _ (by omega)]
      have he := Encodes.negfix (n % 256 ^ 1).toNat (by omega) (by omega)
      have hn : ((n % 256 ^ 1).toNat : Int) - 256 = n := by omega
      rw [hn] at he
      exact .inl ⟨_, rfl, he, BytesOK_cons.mpr ⟨by omega, BytesOK_nil⟩, fun _ h => int_minimal (L := 1) (by omega) h⟩
    rw [if_neg h1]
    by_cases h2 : n ≥ -128
    · rw [if_pos h2]; exact .signed (by omega) (by omega) .int8 (int_minimal (by omega))
    rw [if_neg h2]
    by_cases h3 : n ≥ -32768
    · rw [if_pos h3]; exact .signed (by omega) (by omega) .int16 (int_minimal (by omega))
    rw [if_neg h3]
    by_cases h4 : n ≥ -2147483648
    · rw [if_pos h4]; exact .signed (by omega) (by omega) .int32 (int_minimal (by omega))
    rw [if_neg h4]
    by_cases h5 : n ≥ -9223372036854775808
    · rw [if_pos h5]; exact .signed (by omega) (by omega) .int64 (int_minimal (by omega))
    · rw [if_neg h5]; exact .inr ⟨rfl, fun h => by simp only [InRange] at h; omega⟩
  · rw [if_neg h0]
    obtain ⟨k, rfl⟩ : ∃ k : Nat, n = k := ⟨n.toNat, (Int.toNat_of_nonneg (by omega)).symm⟩
    by_cases h1 : (k : Int) ≤ 127
    · rw [if_pos h1, catBytes_one, packU8, packUnsigned_nat 1 k (by omega), beBytes_one _ (by omega)]
      exact .inl ⟨_, rfl, .posfix k (by omega), BytesOK_cons.mpr ⟨by omega, BytesOK_nil⟩,
        fun _ h => int_minimal (L := 1) (by omega) h⟩
    rw [if_neg h1]
    by_cases h2 : (k : Int) ≤ 255
    · rw [if_pos h2]; exact .unsigned (by omega) .uint8 (int_minimal (by omega))
    rw [if_neg h2]
    by_cases h3 : (k : Int) ≤ 65535
    · rw [if_pos h3]; exact .unsigned (by omega) .uint16 (int_minimal (by omega))
    rw [if_neg h3]
    by_cases h4 : (k : Int) ≤ 4294967295
    · rw [if_pos h4]; exact .unsigned (by omega) .uint32 (int_minimal (by omega))
    rw [if_neg h4]
    by_cases h5 : (k : Int) ≤ 18446744073709551615
    · rw [if_pos h5]; exact .unsigned (by omega) .uint64 (int_minimal (by omega))
    · rw [if_neg h5]; exact .inr ⟨rfl, fun h => by simp only [InRange] at h; omega⟩

theorem pack_str (u : Bytes) : pack (.str u) =
    if u.length < 2 ^ 32 then .ok (strHdr u.length ++ u) else .error .unsupported := by
  rw [pack]; exact packString_eq _ _

theorem pack_bin (b : Bytes) : pack (.bin b) =
    if b.length < 2 ^ 32 then .ok (lenHdr 0xc4 0xc5 0xc6 b.length ++ b) else .error .unsupported := by
  rw [pack]; exact packBinary_eq _ _

theorem pack_ext (ty : Int) (d : Bytes) : pack (.ext ty d) =
    if d.length < 2 ^ 32 then .ok (extHdr d.length ++ (ty % 256).toNat :: d)
    else .error .unsupported := by
  rw [pack]; exact packExt_eq _ _ _

theorem pack_seq {v : Value} {xs : List Value} (hv : v = .arr xs ∨ v = .tup xs) :
    pack v = if xs.length < 2 ^ 32 then
      (packList xs).map (cntHdr 0x90 0xdc 0xdd xs.length ++ ·) else .error .unsupported := by
  rcases hv with rfl | rfl <;>
  · rw [pack]; unfold intLen; rw [Int.ofNat_eq_natCast, packArrayHeader_eq]
    by_cases h : xs.length < 2 ^ 32
    · rw [if_pos h, if_pos h, ok_bind]; cases packList xs <;> rfl
    · rw [if_neg h, if_neg h, err_bind]

theorem pack_map (kvs : List (Value × Value)) : pack (.map kvs) =
    if kvs.length < 2 ^ 32 then (packPairs kvs).map (cntHdr 0x80 0xde 0xdf kvs.length ++ ·)
    else .error .unsupported := by
  rw [pack]; unfold intLen; rw [Int.ofNat_eq_natCast, packMapHeader_eq]
  by_cases h : kvs.length < 2 ^ 32
  · rw [if_pos h, if_pos h, ok_bind]; cases packPairs kvs <;> rfl
  · rw [if_neg h, if_neg h, err_bind]

mutual
theorem pack_valid : (v : Value) → wf v = true → ∃ bs, pack v = .ok bs ∧ Encodes v bs ∧ BytesOK bs
  | .nil, _ => ⟨[0xc0], by rw [pack], .nil, by decide⟩
  | .bool true, _ => ⟨[0xc3], by rw [pack]; rfl, .true, by decide⟩
  | .bool false, _ => ⟨[0xc2], by rw [pack]; rfl, .false, by decide⟩
  | .int n, h => by
    simp only [wf, Bool.and_eq_true, decide_eq_true_eq] at h
    rw [pack]
    rcases packInteger_spec n with ⟨bs, hb, he, hok, _⟩ | ⟨_, hr⟩
    · exact ⟨bs, hb, he, hok⟩
    · exact absurd h hr
  | .float bits, h => by
    simp only [wf, decide_eq_true_eq] at h
    refine ⟨0xcb :: beBytes 8 bits, by rw [pack], ?_, BytesOK_cons.mpr ⟨by decide, beBytes_ok _ _⟩⟩
    have := Encodes.float64 (beBytes 8 bits) (beBytes_length _ _) (beBytes_ok _ _)
    rwa [beVal_beBytes_lt 8 bits (by omega)] at this
  | .str u, h => by
    simp only [wf, Bool.and_eq_true, decide_eq_true_eq, bytesOK_iff] at h
    exact ⟨_, by rw [pack_str, if_pos h.2], encodes_str u h.2,
      BytesOK_append.mpr ⟨strHdr_ok _, h.1.1⟩⟩
  | .bin u, h => by
    simp only [wf, Bool.and_eq_true, decide_eq_true_eq, bytesOK_iff] at h
    exact ⟨_, by rw [pack_bin, if_pos h.2], encodes_bin u h.2,
      BytesOK_append.mpr ⟨lenHdr_ok _, h.1⟩⟩
  | .ext ty d, h => by
    simp only [wf, Bool.and_eq_true, decide_eq_true_eq, bytesOK_iff] at h
    obtain ⟨⟨⟨h0, h1⟩, h2⟩, h3⟩ := h
    obtain ⟨t, rfl⟩ : ∃ t : Nat, ty = t := ⟨ty.toNat, (Int.toNat_of_nonneg h0).symm⟩
    have ht : ((t : Int) % 256).toNat = t := by omega
    exact ⟨_, by rw [pack_ext, if_pos h3, ht], encodes_ext t d h3,
      BytesOK_append.mpr ⟨extHdr_ok _, BytesOK_cons.mpr ⟨by omega, h2⟩⟩⟩
  | .opaque, h => by simp [wf] at h
  | .arr xs, h | .tup xs, h => by
    simp only [wf, Bool.and_eq_true, decide_eq_true_eq] at h
    obtain ⟨bs, hb, he, hok⟩ := packList_valid xs h.2
    exact ⟨_, by rw [pack_seq (xs := xs) (by simp), if_pos h.1, hb]; rfl, encodes_seq (xs := xs) (by simp) bs h.1 he,
      BytesOK_append.mpr ⟨cntHdr_ok _, hok⟩⟩
  | .map kvs, h => by
    simp only [wf, Bool.and_eq_true, decide_eq_true_eq] at h
    obtain ⟨bs, hb, he, hok⟩ := packPairs_valid kvs h.1.2
    exact ⟨_, by rw [pack_map, if_pos h.1.1, hb]; rfl, encodes_map kvs bs h.1.1 he,
      BytesOK_append.mpr ⟨cntHdr_ok _, hok⟩⟩
theorem packList_valid : (xs : List Value) → wfList xs = true →
    ∃ bs, packList xs = .ok bs ∧ EncodesList xs bs ∧ BytesOK bs
  | [], _ => ⟨[], by rw [packList], .nil, BytesOK_nil⟩
  | x :: xs, h => by
    simp only [wfList, Bool.and_eq_true] at h
    obtain ⟨a, ha, hea, hoka⟩ := pack_valid x h.1
    obtain ⟨b, hb, heb, hokb⟩ := packList_valid xs h.2
    exact ⟨a ++ b, by rw [packList, ha, hb]; rfl, .cons x xs a b hea heb,
      BytesOK_append.mpr ⟨hoka, hokb⟩⟩
theorem packPairs_valid : (kvs : List (Value × Value)) → wfPairs kvs = true →
    ∃ bs, packPairs kvs = .ok bs ∧ EncodesPairs kvs bs ∧ BytesOK bs
  | [], _ => ⟨[], by rw [packPairs], .nil, BytesOK_nil⟩
  | (k, v) :: kvs, h => by
    simp only [wfPairs, Bool.and_eq_true] at h
    obtain ⟨a, ha, hea, hoka⟩ := pack_valid k h.1.1.1
    obtain ⟨b, hb, heb, hokb⟩ := pack_valid v h.1.2
    obtain ⟨c, hc, hec, hokc⟩ := packPairs_valid kvs h.2
    exact ⟨a ++ b ++ c, by rw [packPairs, ha, hb, hc]; rfl, .cons k v kvs a b c hea heb hec,
      BytesOK_append.mpr ⟨BytesOK_append.mpr ⟨hoka, hokb⟩, hokc⟩⟩
end

/-- the only failure is `UnsupportedTypeException` -/
def OnlyUnsupported {α} (x : Except Err α) : Prop := ∀ e, x = .error e → e = .unsupported

theorem onlyUnsup_ok {α} (a : α) : OnlyUnsupported (.ok a : Except Err α) := fun _ h => nomatch h

theorem onlyUnsup_unsupported {α} : OnlyUnsupported (.error .unsupported : Except Err α) :=
  fun _ h => (Except.error.inj h).symm

theorem onlyUnsup_guard {α} {c : Prop} [Decidable c] {x : Except Err α} (h : OnlyUnsupported x) :
    OnlyUnsupported (if c then x else .error .unsupported) := by
  split
  · exact h
  · exact onlyUnsup_unsupported

theorem onlyUnsup_bind {α β} {x : Except Err α} {f : α → Except Err β}
    (hx : OnlyUnsupported x) (hf : ∀ a, OnlyUnsupported (f a)) : OnlyUnsupported (x >>= f) := by
  cases x with
  | error e => rw [err_bind]; exact fun e' h => hx e' (by cases h; rfl)
  | ok a => rw [ok_bind]; exact hf a

theorem onlyUnsup_map {α β} {x : Except Err α} (f : α → β) (hx : OnlyUnsupported x) :
    OnlyUnsupported (x.map f) := by
  cases x with
  | error e => exact fun e' h => hx e' (by cases h; rfl)
  | ok a => exact onlyUnsup_ok _

-- the encoder never raises `struct.error`: every `struct.pack` call of the generated chains is
-- guarded by a range test that puts its argument in range
mutual
theorem pack_errs : (v : Value) → OnlyUnsupported (pack v)
  | .nil => by rw [pack]; exact onlyUnsup_ok _
  | .bool _ => by rw [pack]; exact onlyUnsup_ok _
  | .int n => by
    rw [pack]
    rcases packInteger_spec n with ⟨bs, hb, _⟩ | ⟨hb, _⟩ <;> rw [hb]
    · exact onlyUnsup_ok _
    · exact onlyUnsup_unsupported
  | .float _ => by rw [pack]; exact onlyUnsup_ok _
  | .str u => by rw [pack_str]; exact onlyUnsup_guard (onlyUnsup_ok _)
  | .bin b => by rw [pack_bin]; exact onlyUnsup_guard (onlyUnsup_ok _)
  | .ext ty d => by rw [pack_ext]; exact onlyUnsup_guard (onlyUnsup_ok _)
  | .opaque => by rw [pack]; exact onlyUnsup_unsupported
  | .arr xs | .tup xs => by
    rw [pack_seq (xs := xs) (by simp)]; exact onlyUnsup_guard (onlyUnsup_map _ (packList_errs xs))
  | .map kvs => by rw [pack_map]; exact onlyUnsup_guard (onlyUnsup_map _ (packPairs_errs kvs))
theorem packList_errs : (xs : List Value) → OnlyUnsupported (packList xs)
  | [] => by rw [packList]; exact onlyUnsup_ok _
  | x :: xs => by
    rw [packList]
    exact onlyUnsup_bind (pack_errs x) fun a =>
      onlyUnsup_bind (packList_errs xs) fun b => onlyUnsup_ok _
theorem packPairs_errs : (kvs : List (Value × Value)) → OnlyUnsupported (packPairs kvs)
  | [] => by rw [packPairs]; exact onlyUnsup_ok _
  | (k, v) :: kvs => by
    rw [packPairs]
    exact onlyUnsup_bind (pack_errs k) fun a =>
      onlyUnsup_bind (pack_errs v) fun b =>
        onlyUnsup_bind (packPairs_errs kvs) fun c => onlyUnsup_ok _
end

mutual
/-- number of floats in a value (each may be 4 bytes shorter in the float32 format, which the
    encoder never uses) -/
def floatCount : Value → Nat
  | .float _ => 1
  | .arr xs | .tup xs => floatCountList xs
  | .map kvs => floatCountPairs kvs
  | _ => 0
def floatCountList : List Value → Nat
  | [] => 0
  | x :: xs => floatCount x + floatCountList xs
def floatCountPairs : List (Value × Value) → Nat
  | [] => 0
  | (k, v) :: kvs => floatCount k + floatCount v + floatCountPairs kvs
end

theorem map_append_ok {x : Except Err Bytes} {hdr ds : Bytes} (h : x.map (hdr ++ ·) = .ok ds) :
    ∃ b, x = .ok b ∧ ds = hdr ++ b := by
  cases x with
  | error e => cases h
  | ok b => exact ⟨b, rfl, (Except.ok.inj h).symm⟩

theorem guard_ok {α} {c : Prop} [Decidable c] {x : Except Err α} {a : α}
    (h : (if c then x else .error .unsupported) = .ok a) : x = .ok a := by
  split at h
  · exact h
  · cases h

mutual
theorem pack_minimal : (v : Value) → ∀ (bs ds : Bytes), Encodes v bs → pack v = .ok ds →
    ds.length ≤ bs.length + 4 * floatCount v
  | .nil, bs, ds, he, hd => by
    cases he; rw [pack] at hd; cases hd; exact Nat.le_add_right _ _
  | .bool b, bs, ds, he, hd => by
    cases he <;> (rw [pack] at hd; cases hd; exact Nat.le_add_right _ _)
  | .int n, bs, ds, he, hd => by
    rw [pack] at hd
    rcases packInteger_spec n with ⟨ds', hb, _, _, hmin⟩ | ⟨hb, _⟩ <;> rw [hb] at hd <;> cases hd
    exact Nat.le_add_right_of_le (hmin bs he)
  | .float x, bs, ds, he, hd => by
    rw [pack] at hd; cases hd
    cases he <;> simp [floatCount, beBytes_length] <;> omega
  | .str p, bs, ds, he, hd => by
    rw [pack_str] at hd; cases guard_ok hd
    exact Nat.le_add_right_of_le (str_minimal he)
  | .bin p, bs, ds, he, hd => by
    rw [pack_bin] at hd; cases guard_ok hd
    exact Nat.le_add_right_of_le (bin_minimal he)
  | .ext ty p, bs, ds, he, hd => by
    rw [pack_ext] at hd; cases guard_ok hd
    exact Nat.le_add_right_of_le (ext_minimal he)
  | .opaque, _, _, _, hd => by rw [pack] at hd; cases hd
  | .arr xs, bs, ds, he, hd | .tup xs, bs, ds, he, hd => by
    rw [pack_seq (xs := xs) (by simp)] at hd
    obtain ⟨b, hb, rfl⟩ := map_append_ok (guard_ok hd)
    obtain ⟨bs', hel, hlen⟩ := seq_minimal (xs := xs) (by simp) he
    have := packList_minimal xs bs' b hel hb
    simp only [List.length_append, floatCount]
    omega
  | .map kvs, bs, ds, he, hd => by
    rw [pack_map] at hd
    obtain ⟨b, hb, rfl⟩ := map_append_ok (guard_ok hd)
    obtain ⟨bs', hel, hlen⟩ := map_minimal he
    have := packPairs_minimal kvs bs' b hel hb
    simp only [List.length_append, floatCount]
    omega
theorem packList_minimal : (xs : List Value) → ∀ (bs ds : Bytes), EncodesList xs bs →
    packList xs = .ok ds → ds.length ≤ bs.length + 4 * floatCountList xs
  | [], bs, ds, he, hd => by
    cases he; rw [packList] at hd; cases hd; exact Nat.le_add_right _ _
  | x :: xs, bs, ds, he, hd => by
    cases he with
    | cons _ _ a b hea heb =>
      simp only [packList, bind_eq_ok, pure_ok] at hd
      obtain ⟨a', ha, b', hb, hd⟩ := hd
      cases hd
      have := pack_minimal x a a' hea ha
      have := packList_minimal xs b b' heb hb
      simp only [List.length_append, floatCountList]
      omega
theorem packPairs_minimal : (kvs : List (Value × Value)) → ∀ (bs ds : Bytes), EncodesPairs kvs bs →
    packPairs kvs = .ok ds → ds.length ≤ bs.length + 4 * floatCountPairs kvs
  | [], bs, ds, he, hd => by
    cases he; rw [packPairs] at hd; cases hd; exact Nat.le_add_right _ _
  | (k, v) :: kvs, bs, ds, he, hd => by
    cases he with
    | cons _ _ _ a b c hea heb hec =>
      simp only [packPairs, bind_eq_ok, pure_ok] at hd
      obtain ⟨a', ha, b', hb, c', hc, hd⟩ := hd
      cases hd
      have := pack_minimal k a a' hea ha
      have := pack_minimal v b b' heb hb
      have := packPairs_minimal kvs c c' hec hc
      simp only [List.length_append, floatCountPairs]
      omega
end

end SuppModel.Msgpack
