/-
  The decoder, stage by stage: what `unpack` does on a first byte of each family, and what
  `unpackInteger`, `unpackFloat`, `readLen`, `unpackExt` do on each code.  Both the acceptance
  proof and the post-condition proof go through these equations and never unfold a stage.
-/
import SuppModel.Msgpack.Bytes
namespace SuppModel.Msgpack

theorem unpack_nil (f : Nat) : unpack (f + 1) [] = .error .insufficient := by
  simp [unpack, readExcept_eq, err_bind]

/-- the `match` of `unpack (f + 1)` after the first byte `c`, as a function of the family -/
def stage (f c : Nat) (rest : Bytes) : Generated.Family → Except Err (Value × Bytes)
  | .integer => do let (n, r) ← unpackInteger c rest; pure (.int n, r)
  | .nil => if c = 0xc0 then pure (.nil, rest) else .error .logic
  | .reserved => if c = 0xc1 then .error .reserved else .error .logic
  | .boolean =>
    if c = 0xc2 then pure (.bool false, rest)
    else if c = 0xc3 then pure (.bool true, rest) else .error .logic
  | .float => do let (b, r) ← unpackFloat c rest; pure (.float b, r)
  | .string => unpackString c rest
  | .binary => unpackBinary c rest
  | .ext => unpackExt c rest
  | .array => do
    let (len, r) ← readLen c 0xf0 0x90 0x0f 0 0xdc 0xdd rest
    let (xs, r) ← unpackN f len r
    pure (.arr xs, r)
  | .map => do
    let (len, r) ← readLen c 0xf0 0x80 0x0f 0 0xde 0xdf rest
    let (d, r) ← unpackMap f len r []
    pure (.map d, r)
  | .missing => .error .logic

theorem unpack_cons {f c : Nat} {F : Generated.Family} (rest : Bytes)
    (hd : Generated.dispatch c = F) : unpack (f + 1) (c :: rest) = stage f c rest F := by
  rw [unpack, readExcept_eq, if_neg (by simp), ok_bind, ← hd]
  rfl

theorem unpackN_zero (f : Nat) (inp : Bytes) : unpackN f 0 inp = .ok ([], inp) := by rw [unpackN]

theorem unpackN_succ (f n : Nat) (inp : Bytes) : unpackN f (n + 1) inp = (do
    let (v, r) ← unpack f inp
    let (vs, r) ← unpackN f n r
    pure (v :: vs, r)) := by rw [unpackN]

theorem unpackMap_zero (f : Nat) (inp : Bytes) (d : Dict) : unpackMap f 0 inp d = .ok (d, inp) := by
  rw [unpackMap]

theorem unpackMap_succ (f n : Nat) (inp : Bytes) (d : Dict) : unpackMap f (n + 1) inp d = (do
    let (k, r) ← unpack f inp
    match k with
    | .arr xs =>
      let k' := Value.tup (deepTupleList xs)
      let (v, r) ← unpack f r
      if hashable k' then unpackMap f n r (dictSet d k' v) else .error .unhashable
    | _ =>
      if !hashable k then .error .unhashable
      else if dictHas d k then .error .duplicate
      else do
        let (v, r) ← unpack f r
        unpackMap f n r (dictSet d k v)) := by
  rw [unpackMap]; rfl

theorem unpackInteger_pos {c : Nat} (h : c < 128) (inp : Bytes) :
    unpackInteger c inp = .ok ((c : Int), inp) := by
  have hm := mask_iff c (by omega)
  unfold unpackInteger
  rw [if_neg (by rw [hm.1]; omega), if_neg (by omega), if_neg (by omega), if_neg (by omega),
    if_neg (by omega), if_pos (hm.2.1.mpr h)]
  simp [unpackUnsigned, beVal]

theorem unpackInteger_neg {c : Nat} (h : 224 ≤ c) (hc : c < 256) (inp : Bytes) :
    unpackInteger c inp = .ok ((c : Int) - 256, inp) := by
  unfold unpackInteger
  rw [if_pos ((mask_iff c hc).1.mpr h)]
  simp [unpackSigned, beVal]; omega

-- the width of a fixed-width format is `2 ^ (code - first code of the format group)`
theorem unpackInteger_unsigned {c : Nat} (h1 : 0xcc ≤ c) (h2 : c ≤ 0xcf) (inp : Bytes) :
    unpackInteger c inp =
      (do let (b, r) ← readExcept (2 ^ (c - 0xcc)) inp; pure (unpackUnsigned b, r)) := by
  obtain rfl | rfl | rfl | rfl : c = 0xcc ∨ c = 0xcd ∨ c = 0xce ∨ c = 0xcf := by omega
  all_goals rfl

theorem unpackInteger_signed {c : Nat} (h1 : 0xd0 ≤ c) (h2 : c ≤ 0xd3) (inp : Bytes) :
    unpackInteger c inp =
      (do let (b, r) ← readExcept (2 ^ (c - 0xd0)) inp; pure (unpackSigned b, r)) := by
  obtain rfl | rfl | rfl | rfl : c = 0xd0 ∨ c = 0xd1 ∨ c = 0xd2 ∨ c = 0xd3 := by omega
  all_goals rfl

theorem unpackFloat_32 (inp : Bytes) :
    unpackFloat 0xca inp = (do let (b, r) ← readExcept 4 inp; pure (f32to64 (beVal b), r)) := rfl

theorem unpackFloat_64 (inp : Bytes) :
    unpackFloat 0xcb inp = (do let (b, r) ← readExcept 8 inp; pure (beVal b, r)) := rfl

theorem readLen_fix {c m t l c8 c16 c32 : Nat} (hm : m ≠ 0) (h : c &&& m = t) (inp : Bytes) :
    readLen c m t l c8 c16 c32 inp = .ok (c &&& l, inp) := by
  unfold readLen; rw [if_pos ⟨hm, h⟩]

/-- `c` is not a fix code and is the code with `w` length bytes (closed by `decide` when the
    codes are literals) -/
abbrev LenCode (c m t c8 c16 c32 w : Nat) : Prop :=
  ¬(m ≠ 0 ∧ c &&& m = t) ∧ ((c8 ≠ 0 ∧ c = c8 ∧ w = 1) ∨ (¬(c8 ≠ 0 ∧ c = c8) ∧
    ((c16 ≠ 0 ∧ c = c16 ∧ w = 2) ∨ (¬(c16 ≠ 0 ∧ c = c16) ∧ c32 ≠ 0 ∧ c = c32 ∧ w = 4))))

theorem readLen_wide {c m t l c8 c16 c32 w : Nat} (h : LenCode c m t c8 c16 c32 w)
    (inp : Bytes) :
    readLen c m t l c8 c16 c32 inp = (do let (b, r) ← readExcept w inp; pure (beVal b, r)) := by
  unfold readLen
  rw [if_neg h.1]
  rcases h.2 with ⟨h0, h8, rfl⟩ | ⟨n8, ⟨h0, h16, rfl⟩ | ⟨n16, h0, h32, rfl⟩⟩
  · rw [if_pos ⟨h0, h8⟩]
  · rw [if_neg n8, if_pos ⟨h0, h16⟩]
  · rw [if_neg n8, if_neg n16, if_pos ⟨h0, h32⟩]

/-- the tail of `_unpack_ext` once the payload length is known -/
def extTail (len : Nat) (r : Bytes) : Except Err (Value × Bytes) := do
  let (t, r) ← readExcept 1 r
  let (p, r) ← readExcept len r
  let ty := beVal t
  if ty ≤ 127 then pure (.ext (Int.ofNat ty) p, r) else .error .typeError

theorem unpackExt_fix {c : Nat} (h1 : 0xd4 ≤ c) (h2 : c ≤ 0xd8) (inp : Bytes) :
    unpackExt c inp = extTail (2 ^ (c - 0xd4)) inp := by
  obtain rfl | rfl | rfl | rfl | rfl :
    c = 0xd4 ∨ c = 0xd5 ∨ c = 0xd6 ∨ c = 0xd7 ∨ c = 0xd8 := by omega
  all_goals rfl

theorem unpackExt_wide {c : Nat} (h1 : 0xc7 ≤ c) (h2 : c ≤ 0xc9) (inp : Bytes) :
    unpackExt c inp =
      (do let (len, r) ← readLen c 0 0 0 0xc7 0xc8 0xc9 inp; extTail len r) := by
  obtain rfl | rfl | rfl : c = 0xc7 ∨ c = 0xc8 ∨ c = 0xc9 := by omega
  all_goals rfl

end SuppModel.Msgpack
