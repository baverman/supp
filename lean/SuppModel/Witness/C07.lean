/-
  C07 — negation witness for the full statement (no `NoSplitPackage` hypothesis): a package split
  across two roots.  r1/pk/__init__.py, r2/pk/__init__.py, r2/pk/m2.py with path [r1, r2]:
  supp's get_module scans every root for the full dotted path and analyses r2/pk/m2.py, while the
  import system binds `pk` to r1/pk and searches `m2` only there: ModuleNotFoundError.
-/
import SuppModel.Generated.Fs

namespace SuppModel.Witness
open SuppModel.Fs SuppModel.Fs.Generated

def r1 : Str := [114, 49]
def r2 : Str := [114, 50]
def pk : Str := [112, 107]
def m2 : Str := [109, 50]

def splitFs : Fs :=
  { files := [[r1, pk, INIT_PY], [r2, pk, INIT_PY], [r2, pk, m2 ++ PY]], dirs := [] }

/-- "pk.m2" -/
def pk_m2 : Str := pk ++ DOT :: m2

/-- every other domain hypothesis of C07_find holds, the model finds r2/pk/m2.py, the specification
    finds nothing, and `NoSplitPackage` is exactly what fails -/
theorem C07_split :
    validComps (splitOn DOT pk_m2) = true ∧
    NoNamespaceDirs [[r1], [r2]] splitFs (splitOn DOT pk_m2) = true ∧
    NoModulePackageClash [[r1], [r2]] SUFFIXES splitFs (splitOn DOT pk_m2) = true ∧
    Regular [[r1], [r2]] SUFFIXES splitFs (splitOn DOT pk_m2) = true ∧
    NoExtensionNextToSource [[r1], [r2]] NONEXT_SUFFIXES EXTENSION_SUFFIXES splitFs (splitOn DOT pk_m2) = true ∧
    NoSplitPackage [[r1], [r2]] SUFFIXES SOURCE_SUFFIXES LOADER_SUFFIXES splitFs (splitOn DOT pk_m2) = false ∧
    getModule [[r1], [r2]] SUFFIXES SOURCE_SUFFIXES splitFs [] pk_m2 = .found [r2, pk, m2 ++ PY] true ∧
    importlibFind LOADER_SUFFIXES splitFs [[r1], [r2]] pk_m2 = none := by
  decide +kernel

/-! second recorded defect: an extension module next to its source.  r1/m.py + r1/m.abi3.so, path [r1]:
    supp tries `.py` before the extension suffixes and analyses m.py; FileFinder tries the extension
    suffixes first and `import m` loads m.abi3.so. -/

def mName : Str := [109]
/-- ".abi3.so" -/
def ABI3 : Str := [46, 97, 98, 105, 51, 46, 115, 111]

def extFs : Fs := { files := [[r1, mName ++ PY], [r1, mName ++ ABI3]], dirs := [] }

/-- every other domain hypothesis of C07_find holds (no split either), `NoExtensionNextToSource` is exactly what
    fails, the model selects m.py and the specification m.abi3.so -/
theorem C07_ext_next_to_source :
    validComps (splitOn DOT mName) = true ∧
    NoNamespaceDirs [[r1]] extFs (splitOn DOT mName) = true ∧
    NoModulePackageClash [[r1]] SUFFIXES extFs (splitOn DOT mName) = true ∧
    Regular [[r1]] SUFFIXES extFs (splitOn DOT mName) = true ∧
    NoSplitPackage [[r1]] SUFFIXES SOURCE_SUFFIXES LOADER_SUFFIXES extFs (splitOn DOT mName) = true ∧
    NoExtensionNextToSource [[r1]] NONEXT_SUFFIXES EXTENSION_SUFFIXES extFs (splitOn DOT mName) = false ∧
    getModule [[r1]] SUFFIXES SOURCE_SUFFIXES extFs [] mName = .found [r1, mName ++ PY] true ∧
    importlibFind LOADER_SUFFIXES extFs [[r1]] mName = some (.file [r1, mName ++ ABI3] none) := by
  decide +kernel

end SuppModel.Witness
