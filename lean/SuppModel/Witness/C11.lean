/-
  C11 — concrete evaluations of the `find_id_loc` model: current behaviour next to the legacy behaviour
  (before the fix that extended IMPORT_END_DELIMETERS and stopped searching def / class names as
  `' ' + name` without delimiters), and the window limit that is still there today.
-/
import SuppModel.Text.Spec

namespace SuppModel.Witness.C11
open SuppModel.Text

/-! ### `import os#c`: `#` was not an end delimiter -/

theorem C11_import_comment_legacy :
    findIdLocLegacy ["import os#c".toList] "os".toList (1, 0) 0 true = (1, 0) := by decide_text

theorem C11_import_comment :
    findIdLoc ["import os#c".toList] "os".toList (1, 0) 0 true = (1, 7) := by decide_text

/-! ### line continuation right after the name: `\` was not an end delimiter -/

theorem C11_import_backslash_legacy :
    findIdLocLegacy ["from a import b\\".toList, ", c".toList] "b".toList (1, 0) 0 true = (1, 0) := by
  decide_text

theorem C11_import_backslash :
    findIdLoc ["from a import b\\".toList, ", c".toList] "b".toList (1, 0) 0 true = (1, 14) := by decide_text

/-! ### `def<TAB>f`: the legacy search for `' f'` misses the name -/

theorem C11_def_tab_legacy :
    declaredAtDefLegacy ["def\tf(): pass".toList] "f".toList (1, 0) = (1, 0) := by decide_text

theorem C11_def_tab :
    declaredAt Generated.funcSite ["def\tf(): pass".toList] "f".toList (1, 0) = (1, 4) := by decide_text

/-! ### `async def d`: the legacy search for `' d'` finds the `d` of `def` -/

theorem C11_async_def_legacy :
    declaredAtDefLegacy ["async def d(): pass".toList] "d".toList (1, 0) = (1, 6) := by decide_text

theorem C11_async_def :
    declaredAt Generated.funcSite ["async def d(): pass".toList] "d".toList (1, 0) = (1, 10) := by decide_text

/-! ### `class<TAB>A` -/

theorem C11_class_tab_legacy :
    declaredAtDefLegacy ["class\tA: pass".toList] "A".toList (1, 0) = (1, 0) := by decide_text

theorem C11_class_tab :
    declaredAt Generated.classSite ["class\tA: pass".toList] "A".toList (1, 0) = (1, 6) := by decide_text

/-! ### still true today: the search window is `lines[sl-1 : sl+50]` -/

/-- the imported name is on line 53, outside `lines[0:51]`: the keyword position is reported -/
theorem C11_window_limit :
    findIdLoc ("from a import (".toList :: List.replicate 51 [] ++ ["  x)".toList]) "x".toList (1, 0) 0 true
      = (1, 0) := by decide_text

/-- on line 51 (the last line of the window) it is still found -/
theorem C11_window_last :
    findIdLoc ("from a import (".toList :: List.replicate 49 [] ++ ["  x)".toList]) "x".toList (1, 0) 0 true
      = (51, 2) := by decide_text

/-! ### delimiters on both sides: `import os, osx, os2 as os` -/

theorem C11_import_os :
    findIdLoc ["import os, osx, os2 as os".toList] "os".toList (1, 0) 0 true = (1, 7) := by decide_text

theorem C11_import_osx :
    findIdLoc ["import os, osx, os2 as os".toList] "osx".toList (1, 0) 0 true = (1, 11) := by decide_text

/-! ### fixed by 50717df: `[` was not an end delimiter, `class A[T]:` fell back to the keyword -/

theorem C11_pep695_legacy :
    findIdLocPre695 ["class A[T]: pass".toList] "A".toList (1, 0) 0 true = (1, 0) ∧
    findIdLocPre695 ["def f[T](x): pass".toList] "f".toList (1, 0) 0 true = (1, 0) ∧
    findIdLocPre695 ["class A [T]: pass".toList] "A".toList (1, 0) 0 true = (1, 6) := by decide_text

/-- ... or landed on a later delimited occurrence of the same text -/
theorem C11_pep695_later_legacy :
    findIdLocPre695 ["class ab[T]: pass".toList, "with ab as x: pass".toList] "ab".toList (1, 0) 0 true = (2, 5) := by
  decide_text

theorem C11_pep695 :
    declaredAt Generated.classSite ["class A[T]: pass".toList] "A".toList (1, 0) = (1, 6) ∧
    declaredAt Generated.funcSite ["def f[T](x): pass".toList] "f".toList (1, 0) = (1, 4) ∧
    declaredAt Generated.classSite ["class ab[T]: pass".toList, "with ab as x: pass".toList] "ab".toList (1, 0) = (1, 6) := by
  decide_text

/-! ### fixed by f8cda8c: `Source.lines` used `str.splitlines`, which also breaks at form feeds.
    For the text "x = 1\\n\\x0c\\nimport os\\ndef f(): pass\\n" the parser sees 4 lines and reports the import at (3, 0);
    `str.splitlines` gave 5 lines, and the search started at line 3 of THOSE lines answered (4, 7) -- line 4 of the
    parser's numbering is `def f(): pass`.  `util.splitlines` gives the parser's 4 lines and the answer (3, 7). -/

theorem C11_formfeed_legacy :
    splitlinesLegacy "x = 1\n\x0c\nimport os\ndef f(): pass\n".toList =
      ["x = 1".toList, [], [], "import os".toList, "def f(): pass".toList] ∧
    findIdLoc (splitlinesLegacy "x = 1\n\x0c\nimport os\ndef f(): pass\n".toList) "os".toList (3, 0) 0 true = (4, 7) := by
  decide_text

theorem C11_formfeed :
    splitlines "x = 1\n\x0c\nimport os\ndef f(): pass\n".toList =
      ["x = 1".toList, ['\x0c'], "import os".toList, "def f(): pass".toList] ∧
    findIdLoc (splitlines "x = 1\n\x0c\nimport os\ndef f(): pass\n".toList) "os".toList (3, 0) 0 true = (3, 7) := by
  decide_text

/-! ### fixed by 4a16e68: `location()` reported positions of the MARKED text.  `x = 1\n[nn for nn in x]`, cursor (2, 3):
    the comprehension variable stands at (2, 8); the marked analysis has it at (2, 21) -/

theorem C11_location_shift_legacy :
    (locationEntryLegacy { name := "nn".toList, declaredAt := markedPos (2, 3) (2, 8), filename := "m.py".toList }).loc = (2, 21) ∧
    (locationEntry "m.py".toList (2, 3)
      { name := "nn".toList, declaredAt := markedPos (2, 3) (2, 8), filename := "m.py".toList }).loc = (2, 8) := by decide_text

end SuppModel.Witness.C11
