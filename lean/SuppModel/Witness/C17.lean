/-
  C17 — negation witness for the construction before fix de6288d (`alt_names = list(set(allnames))`):
  two iteration orders of the same set of three alternatives give two different `location()` outputs,
  and a different exported `first_name`.  (Kept so that a revert is recognised as exactly this defect.)
-/
import SuppModel.Perm.Model

namespace SuppModel.Witness.C17
open SuppModel.Perm

def x (i l : Nat) : Alt := .name i [120] (l, 9) (l, 4) [109, 46, 112, 121]
/-- `if a: x = 1 / elif b: x = 2 / else: x = 3` -/
def alts : List Item := [.alt (x 1 3), .alt (x 2 5), .alt (x 3 7)]

def setOrder₁ : SetOrder Alt := SetOrder.ident Alt
def setOrder₂ : SetOrder Alt := SetOrder.rev Alt

/-- both are permutations of the same three alternatives -/
theorem C17_perm_same_set : (setOrder₁.order (dedup (flatten alts))).Perm (setOrder₂.order (dedup (flatten alts))) :=
  (setOrder₁.perm _).trans (setOrder₂.perm _).symm

/-- the legacy construction: two hash orders, two outputs -/
theorem C17_perm :
    locationLegacy setOrder₁ (fun a => [.one a]) alts ≠ locationLegacy setOrder₂ (fun a => [.one a]) alts := by decide +kernel

theorem C17_perm_first_name :
    (multiNameLegacy setOrder₁ alts).bind (fun m => firstName (.multi m)) ≠
    (multiNameLegacy setOrder₂ alts).bind (fun m => firstName (.multi m)) := by decide +kernel

/-- the legacy output under `setOrder₂` is not in source order -/
theorem C17_perm_not_source_order :
    altNamesLegacy setOrder₂ alts = [x 3 7, x 2 5, x 1 3] := by decide +kernel

/-- the present construction on the same input and the same two orders: one output, in source order -/
theorem C17_fixed_same :
    location setOrder₁ (fun a => [.one a]) alts = location setOrder₂ (fun a => [.one a]) alts ∧
    altNames setOrder₂ alts = [x 1 3, x 2 5, x 3 7] := by decide +kernel

end SuppModel.Witness.C17
