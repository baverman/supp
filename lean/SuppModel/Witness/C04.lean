/-
  C04 — witnesses proved by evaluation (`decide +kernel`).

  The memoised evaluator of Flow/Memo.lean (= scope.py's `loop_tracked` discipline: every table is
  cached together with the loop resolutions whose cut edge it met, one cache slot per object,
  reuse iff all `deps` are still in progress) is NOT a memoisation of the pure evaluator on every
  graph, and its answers DO depend on the history on some graphs.

  Mechanism (gSingle).  Flow 3 has two loop predecessors, loop 0 (target 3) and loop 1 (target 2);
  flow 2 has predecessors flow 1 and loop 0.  Cold query at flow 3:
    * loop 0 is resolved at top level (resolution 1); inside, loop 1 is met and resolved in a
      NESTED resolution (2); flow 2 meets loop 0's cut edge, so loop 1's table is stored with
      deps {(0,1)} and becomes unusable when resolution 1 ends; loop 0's table — which was built
      from loop 1 being RESOLVED — is stored with its own resolution dropped from its deps:
      deps = ∅, final;
    * then loop 1 is resolved at top level (resolution 3, its entry is unusable); flow 2 asks for
      loop 0 and the final entry is reused, although under "loop 1 is being resolved" the pure
      evaluator's loop 0 sees loop 1 UNRESOLVED.
  The same happens in scope.py when these four regions are built by hand from `Flow` /
  `LoopFlow` objects (`f3.names_at((9, 9))['b']` is the plain Name, not a MultiName with
  UndefinedName).  What is missing from an entry is the set of loops that were RESOLVED to
  compute it: the checked evaluator of Flow/Checked.lean records it and gives up on such a reuse.
  These two graphs are not extractor-shaped (a flow whose only predecessors are loop edges, a
  loop edge listed before the forward edge).  On the for/for graph `gNested` below, which is,
  such reuses DO happen (the check fires), the intermediate tables differ from the pure
  evaluator's, and yet every answer agrees with the pure evaluator in every order tried: there
  the property rests on the correspondence / oracle search of harness/c04.py only.
-/
import SuppModel.Props.C04

namespace SuppModel.Witness.C04
open SuppModel.Flow SuppModel.Props.C04

private def nm (i : Nat) (s : String) : NameRec := { id := i, name := s, loc := (1, 0), scope := 0 }
private def modScope (fin : Nat) : ScopeRec := ScopeRec.mk 0 .module none [] fin []

/-- one cold query already differs from the pure evaluator -/
def gSingle : Graph :=
  Graph.mk
    [FlowRec.mk 0 0 [nm 0 "b"] [],
     FlowRec.mk 1 0 [] [Parent.flow 0],
     FlowRec.mk 2 0 [nm 2 "a"] [Parent.flow 1, Parent.loop 0 3],
     FlowRec.mk 3 0 [] [Parent.loop 0 3, Parent.loop 1 2]]
    [modScope 3] []

def qSingle : Query := ⟨3, (9, 9), "b"⟩

theorem C04_single_memo :
    runQueries gSingle 15 {} [qSingle] = [some (some [.nm 0])] := by decide +kernel

theorem C04_single_pure :
    lookupAt gSingle 15 3 (9, 9) "b" = some (some [.undef "b", .nm 0]) := by decide +kernel

/-- the full-strength history statement is false of the model -/
theorem C04_history_false : ¬ C04_history_stmt := by
  intro h
  obtain ⟨n', hn'⟩ := h gSingle 15 [qSingle] 0 qSingle (some [.nm 0]) rfl
    (by rw [C04_single_memo]; rfl)
  have := C04_pure_deterministic gSingle n' 15 3 (9, 9) "b" _ _ hn' C04_single_pure
  revert this
  decide

/-- the entry that is wrongly reused: after the cold query, loop 0's table is cached as FINAL
    (no deps) while loop 1's first table died with resolution 1 -/
theorem C04_single_entries :
    ((mNamesAt gSingle 15 {} 3 (9, 9)).map (fun r =>
        (r.1.entries.filter (fun e => e.key = .loop 0 3 ∨ e.key = .loop 1 2)).map
          (fun e => (e.key, e.deps)))) =
      some [(.loop 1 2, []), (.loop 0 3, []), (.loop 1 2, [(0, 1)])] := by decide +kernel

/-- genuine history dependence: the answer to `qDep` depends on whether flow 0 was queried before -/
def gDep : Graph :=
  Graph.mk
    [FlowRec.mk 0 0 [nm 0 "b"] [Parent.loop 0 1],
     FlowRec.mk 1 0 [nm 1 "a"] [Parent.loop 1 2, Parent.flow 0],
     FlowRec.mk 2 0 [nm 2 "a"] [Parent.loop 0 1]]
    [modScope 2] []

def qWarm : Query := ⟨0, (9, 9), "b"⟩
def qDep : Query := ⟨1, (9, 9), "b"⟩

theorem C04_dep_warm :
    runQueries gDep 13 {} [qWarm, qDep] = [some (some [.nm 0]), some (some [.undef "b", .nm 0])] := by
  decide +kernel

theorem C04_dep_cold : runQueries gDep 13 {} [qDep] = [some (some [.nm 0])] := by decide +kernel

/-- the full-strength two-histories statement is false of the model -/
theorem C04_two_histories_false : ¬ C04_two_histories_stmt := by
  intro h
  have := h gDep 13 13 [qWarm, qDep] [qDep] 1 0 qDep (some [.undef "b", .nm 0]) (some [.nm 0])
    rfl rfl (by rw [C04_dep_warm]; rfl) (by rw [C04_dep_cold]; rfl)
  revert this
  decide

/-- on both witnesses the checked evaluator gives up exactly on the answers that are wrong or
    history dependent (so the partial theorems do not apply to them) -/
theorem C04_checked_gives_up :
    runQueriesChecked gSingle 15 {} [qSingle] = [none] ∧
    runQueriesChecked gDep 13 {} [qWarm, qDep] = [some (some [.nm 0]), none] ∧
    runQueriesChecked gDep 13 {} [qDep] = [none] := by decide +kernel

/-- and the exact evaluator gives the pure evaluator's answers there, in both histories -/
theorem C04_exact_on_witnesses :
    runQueriesExact gSingle 15 {} [qSingle] = [some (some [.undef "b", .nm 0])] ∧
    runQueriesExact gDep 13 {} [qWarm, qDep] = [some (some [.nm 0]), some (some [.nm 0])] ∧
    runQueriesExact gDep 13 {} [qDep] = [some (some [.nm 0])] ∧
    lookupAt gDep 13 1 (9, 9) "b" = some (some [.nm 0]) := by decide +kernel

/-- `for i …: c; for j …: (if …: y); d` then `z`: an extractor-shaped graph with NESTED loops.
    flow 1 = outer head (back edge: loop 1 from flow 5), flow 2 = inner head (loop 2 from flow 4) -/
def gNested : Graph :=
  Graph.mk
    [FlowRec.mk 0 0 [nm 100 "x"] [],
     FlowRec.mk 1 0 [nm 101 "i", nm 102 "c"] [Parent.flow 0, Parent.loop 1 5],
     FlowRec.mk 2 0 [nm 103 "j"] [Parent.flow 1, Parent.loop 2 4],
     FlowRec.mk 3 0 [nm 104 "y"] [Parent.flow 2],
     FlowRec.mk 4 0 [] [Parent.flow 3, Parent.flow 2],
     FlowRec.mk 5 0 [nm 105 "d"] [Parent.flow 2],
     FlowRec.mk 6 0 [nm 106 "z"] [Parent.flow 1]]
    [modScope 6] []

def nestedHistory : List Query := [⟨6, (9, 9), "y"⟩, ⟨4, (0, 0), "y"⟩, ⟨4, (0, 0), "d"⟩]

/-- there the real evaluator agrees with the pure one, but the checked one gives up on the queries
    inside the loops: nested loops are outside the domain of `C04_history_partial` -/
theorem C04_nested_not_covered :
    runQueries gNested 40 {} nestedHistory =
      nestedHistory.map (fun q => lookupAt gNested 40 q.flow q.pos q.key) ∧
    runQueries gNested 40 {} nestedHistory =
      [some (some [.undef "y", .nm 104]), some (some [.undef "y", .nm 104]),
       some (some [.undef "d", .nm 105])] ∧
    runQueriesChecked gNested 40 {} nestedHistory = [some (some [.undef "y", .nm 104]), none, none] ∧
    runQueriesChecked gNested 40 {} nestedHistory.reverse =
      [none, none, some (some [.undef "y", .nm 104])] := by decide +kernel

/-- every (flow, name) pair of `gNested`, 49 queries -/
def nestedAll : List Query :=
  (List.range 7).flatMap (fun f => ["x", "i", "c", "j", "y", "d", "z"].map (fun k => ⟨f, (9, 9), k⟩))

def nestedAgrees (qs : List Query) : Bool :=
  runQueries gNested 40 {} qs == qs.map (fun q => lookupAt gNested 40 q.flow q.pos q.key) &&
  runQueriesExact gNested 40 {} qs == runQueries gNested 40 {} qs

/-- the real evaluator agrees with the pure one AND with the exact evaluator (the hypothesis of
    `C04_history_validated`) on all 49 queries of `gNested`, asked in any of the 49 rotations of
    the list and their reversals (98 histories) -/
theorem C04_nested_agrees_observationally :
    (List.range 49).all (fun k =>
      nestedAgrees (nestedAll.drop k ++ nestedAll.take k) &&
      nestedAgrees (nestedAll.drop k ++ nestedAll.take k).reverse) = true := by
  -- evaluated: the pure answers exist, and the real evaluator gives them on each history; that the
  -- exact evaluator then gives them too is `runQueriesExact_eq_pure`
  have hs : ∀ q ∈ nestedAll, (lookupAt gNested 40 q.flow q.pos q.key).isSome := by decide +kernel
  have agrees : ∀ qs, (∀ q ∈ qs, q ∈ nestedAll) →
      (runQueries gNested 40 {} qs == pureAnswers gNested 40 qs) = true → nestedAgrees qs = true :=
    fun qs hl h => (Bool.and_eq_true ..).mpr ⟨h, runQueriesExact_beq_of_pure (fun q hq => hs q (hl q hq)) h⟩
  have hm : (List.range 49).all (fun k =>
      runQueries gNested 40 {} (nestedAll.drop k ++ nestedAll.take k) ==
        pureAnswers gNested 40 (nestedAll.drop k ++ nestedAll.take k) &&
      runQueries gNested 40 {} (nestedAll.drop k ++ nestedAll.take k).reverse ==
        pureAnswers gNested 40 (nestedAll.drop k ++ nestedAll.take k).reverse) = true := by decide +kernel
  refine List.all_eq_true.mpr fun k hk => ?_
  have h := List.all_eq_true.mp hm k hk
  rw [Bool.and_eq_true] at h ⊢
  exact ⟨agrees _ (fun _ => mem_of_mem_rotate) h.1,
    agrees _ (fun _ hq => mem_of_mem_rotate (List.mem_reverse.mp hq)) h.2⟩

end SuppModel.Witness.C04
