/-
  C10, legacy witness (finding `lint-raises-multiname-locals`, FIXED in /repo by f39595c).

  Before the fix the usage loop tested `sname.name == 'locals' and sname.location == (0, 0)`; on

      def g():
          zz = 1
      def f(c):
          if c:
              locals = 1
          return locals()

  the read of `locals` resolves to MultiName([AssignedName locals, RuntimeName locals]), `MultiName.location`
  raised AttributeError and the never-read local `zz` of `g` was not reported (nothing was).  `Legacy.usageStep`
  keeps that loop only to carry the witness; the current loop (`SuppModel.Lint.usageStep`) answers and reports `zz`.
-/
import SuppModel.Lint.Lemmas

namespace SuppModel.Witness.C10
open SuppModel.Lint

namespace Legacy

/-- the usage loop as it was before f39595c: differs from `SuppModel.Lint.usageStep` in the MultiName case only -/
def usageStep (st : St) (r : Read) : Except PyErr St :=
  match r.flow with
  | some fl =>
    match fl.table.lookup r.id with
    | some (.multi nm alts) =>
      if nm = "locals" then .error .attributeError          -- `sname.location` on a MultiName
      else .ok { st with used := alts ++ st.used }
    | _ => SuppModel.Lint.usageStep st r
  | none => SuppModel.Lint.usageStep st r

def usageLoop : St → List Read → Except PyErr St
  | st, [] => .ok st
  | st, r :: rs =>
    match usageStep st r with
    | .ok st' => usageLoop st' rs
    | .error e => .error e

def lintModel (m : Module) : Except PyErr (List Diag) :=
  match usageLoop St.init m.reads with
  | .ok st => .ok (st.diags ++ m.allNames.filterMap (reportOf st))
  | .error e => .error e

end Legacy

def crashModule : Module where
  allNames := [
    ⟨0, "g", .funcdef, .module, 0, false, (1, 4), (2, 4)⟩,
    ⟨1, "f", .funcdef, .module, 0, false, (3, 4), (4, 4)⟩,
    ⟨2, "zz", .assigned, .function, 1, false, (2, 4), (2, 10)⟩,
    ⟨3, "c", .argument, .function, 2, false, (3, 6), (4, 4)⟩,
    ⟨4, "locals", .assigned, .function, 2, false, (5, 8), (5, 18)⟩]
  reads := [
    ⟨"c", (4, 7), some ⟨2, [("c", .single ⟨some 3, "c", false, some 2, false⟩)]⟩⟩,
    ⟨"locals", (6, 11), some ⟨2, [("c", .single ⟨some 3, "c", false, some 2, false⟩),
                                   ("locals", .multi "locals" [4])]⟩⟩]

/-- the loop of the old tree raised on it ... -/
theorem legacy_crash : Legacy.lintModel crashModule = .error .attributeError := by rfl

/-- ... the loop of the current tree answers: the unread module-level defs are exempt, `zz` is reported -/
theorem fixed_answer : lintModel crashModule = .ok [⟨"W01", "Unused name: zz", 2, 4⟩] :=
  (lintModel_eq (usage_eq _)).trans (congrArg _ (by decide +kernel))

/-- the hypotheses of the C10 theorems hold of it, and `zz` is a never-read local the sentence wants reported -/
theorem crash_in_domain :
    TableWellKeyed crashModule ∧ RefsScoped crashModule ∧ NoDupIds crashModule ∧
    NeverRead crashModule ⟨2, "zz", .assigned, .function, 1, false, (2, 4), (2, 10)⟩ ∧
    spec (specFactsOf ⟨2, "zz", .assigned, .function, 1, false, (2, 4), (2, 10)⟩ false) = some .W01 := by
  decide +kernel

end SuppModel.Witness.C10
