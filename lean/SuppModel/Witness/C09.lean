/-
  C09 — the behaviours of `check_changes` other than the present one are stale, by evaluation: the two earlier
  ones (`.pinned`, `.coarseOnly`; repaired in /repo by b5a1370 and 07fdbb8), the one before a1df565 (`.noRenorm`)
  and the seeded change `.ltChanged`.  `Props/C09.lean` proves the property for `.current`.
-/
import SuppModel.Proj.State

namespace SuppModel.Witness
open SuppModel.Proj

/-- modules a = [1], b = [2]; names K = 10, L = 11 -/
def starDisk : Disk := [([1], ⟨1, [.star [2]]⟩), ([2], ⟨2, [.bind 10 7]⟩)]

def starHistory : List Op :=
  [.request (.names [1] none), .write [2] 3 [.bind 11 8], .request (.names [1] none)]

/-- pinned tree: `a: from b import *`, rewrite b, ask for a's names through `import a` — the second
    answer is still b's old name K although a fresh project says L -/
theorem C09_star :
    (run .pinned 10 (World.init .pinned starDisk) starHistory).map (·.2.2) = [.names [10], .names [10]] ∧
    fresh 10 ((run .pinned 10 (World.init .pinned starDisk) starHistory).getLast!.1) (.names [1] none)
      = .names [11] := by decide

/-- the same history is answered correctly by the other two variants -/
theorem C09_star_repaired :
    (run .coarseOnly 10 (World.init .coarseOnly starDisk) starHistory).map (·.2.2) = [.names [10], .names [11]] ∧
    (run .current 10 (World.init .current starDisk) starHistory).map (·.2.2) = [.names [10], .names [11]] := by
  decide

/-- resolved imported name (`_ref`): `a: from b import K`, rewrite b so that K is something else -/
theorem C09_ref :
    (run .pinned 10 (World.init .pinned [([1], ⟨1, [.frm [2] 10 10]⟩), ([2], ⟨2, [.bind 10 7]⟩)])
      [.request (.attr [1] none 10), .write [2] 3 [.bind 10 8], .request (.attr [1] none 10)]).map (·.2.2)
      = [.payload 7, .payload 7] := by decide

def createdDisk : Disk := [([1], ⟨1, [.frm [2] 10 10, .star [2]]⟩)]

def createdHistory : List Op :=
  [.request (.attr [1] none 10), .write [2] 2 [.bind 10 7], .request (.attr [1] none 10),
   .request (.names [1] none)]

/-- b5a1370 alone: a imports b before b exists; create b; requests through a still see nothing of b
    (no cached module changed, and the failed import is memoised in a's cached analysis) -/
theorem C09_created :
    (run .coarseOnly 10 (World.init .coarseOnly createdDisk) createdHistory).map (·.2.2)
      = [.nothing, .nothing, .names [10]] ∧
    (run .current 10 (World.init .current createdDisk) createdHistory).map (·.2.2)
      = [.nothing, .payload 7, .names [10, 10]] := by decide

theorem not_transparent_of {v : Variant} {fuel : Nat} {D0 : Disk} {ops : List Op}
    (hf : freshMtimes (seenOf D0) ops = true) (hbad : transparentOn v fuel D0 ops = false) :
    ¬ Transparent v :=
  fun h => Bool.false_ne_true (hbad.symm.trans (transparentOn_iff.2 (h fuel D0 ops hf)))

theorem not_transparentAbs_of {v : Variant} {fuel : Nat} {D0 : Disk} {ops : List Op}
    (ha : absDisk D0 = true) (hf : freshMtimes (seenOf D0) ops = true) (ho : ops.all Op.isAbs = true)
    (hbad : transparentOn v fuel D0 ops = false) : ¬ TransparentAbs v :=
  fun h => Bool.false_ne_true (hbad.symm.trans (transparentOn_iff.2 (h fuel D0 ha ops hf ho)))

/-- the pinned tree does not have the property (absolute imports suffice) -/
theorem C09_pinned_false : ¬ TransparentAbs .pinned :=
  not_transparentAbs_of (fuel := 10) (D0 := starDisk) (ops := starHistory)
    (by decide) (by decide) (by decide) (by decide)

/-- nor does b5a1370 alone -/
theorem C09_coarseOnly_false : ¬ TransparentAbs .coarseOnly :=
  not_transparentAbs_of (fuel := 10) (D0 := createdDisk) (ops := createdHistory)
    (by decide) (by decide) (by decide) (by decide)

/-- a = [1]: `from b import *` (unchanged), b = [2] cached at mtime 50 -/
def ltDisk : Disk := [([1], ⟨50, [.star [2]]⟩), ([2], ⟨50, [.bind 10 7]⟩)]

/-- request through a; b is rewritten and gets an OLDER mtime (restored from a backup, checked out by git,
    clock skew); the same request -/
def ltHistory : List Op :=
  [.request (.names [1] none), .write [2] 30 [.bind 11 8], .request (.names [1] none)]

/-- `changed` written as `self.mtime < getmtime(...)`: the rewrite to an older mtime goes unnoticed and the
    second answer is b's old name, where a fresh project — and the code as it is, with `!=` — says L -/
theorem C09_lt :
    (run .ltChanged 10 (World.init .ltChanged ltDisk) ltHistory).map (·.2.2) = [.names [10], .names [10]] ∧
    (run .current 10 (World.init .current ltDisk) ltHistory).map (·.2.2) = [.names [10], .names [11]] ∧
    freshMtimes (seenOf ltDisk) ltHistory = true := by decide

/-- so that variant is not transparent, on a 3-step history with absolute imports and fresh mtimes -/
theorem C09_lt_false : ¬ TransparentAbs .ltChanged :=
  not_transparentAbs_of (fuel := 10) (D0 := ltDisk) (ops := ltHistory)
    (by decide) (by decide) (by decide) (by decide)

/-- package `zq_p8.zq_p9` = [8, 9] with `__init__`, but `zq_p8/` has no `__init__.py` yet;
    `zq_p8/zq_p9/zq_m1.py`: `from .zq_m2 import K10`; `zq_p8/zq_p9/zq_m2.py`: `class K10` -/
def normDisk : Disk :=
  [([8, 9], ⟨1, []⟩), ([8, 9, 2], ⟨2, [.bind 10 1]⟩), ([8, 9, 1], ⟨3, [.rfrm 0 [2] 10 10]⟩)]

/-- `from zq_p8.zq_p9 import zq_m1; zq_m1.K10.` — create `zq_p8/__init__.py` — the same request -/
def normHistory : List Op :=
  [.request (.attr [8, 9] (some 1) 10), .write [8] 4 [], .request (.attr [8, 9] (some 1) 10)]

/-- the code before a1df565 (`.noRenorm`).  After `zq_p8/__init__.py` appears, the relative name `.zq_m2` means
    `zq_p8.zq_p9.zq_m2` to a fresh project (which finds `K10`), but the long-lived project keeps the
    `_norm_cache` entry `zq_p9` for that directory and goes on looking for `zq_p9.zq_m2`:
    `check_changes` never dropped `_norm_cache` (it does since a1df565: `_renormed`). -/
theorem C09_norm_history :
    (run .noRenorm 10 (World.init .noRenorm normDisk) normHistory).map (·.2.2) = [.nothing, .nothing] ∧
    fresh 10 (([8], ⟨4, []⟩) :: normDisk) (.attr [8, 9] (some 1) 10) = .payload 1 ∧
    (run .current 10 (World.init .current normDisk) normHistory).map (·.2.2) = [.nothing, .payload 1] := by
  decide

/-- hence the full-strength statement (relative imports included) was false of that code -/
theorem C09_norm_false : ¬ Transparent .noRenorm :=
  not_transparent_of (fuel := 10) (D0 := normDisk) (ops := normHistory) (by decide) (by decide)

/-- the same defect in `norm_package` taken alone.
    `zq_p8/zq_p9/` is a package, `zq_p8/` is not yet; a module in `zq_p8/zq_p9/` does `from .zq_m2 import K`:
    the name is normalised to `zq_p9.zq_m2` and the directory's package path is cached.  Then
    `zq_p8/__init__.py` is created: a fresh project normalises to `zq_p8.zq_p9.zq_m2`, the long-lived one
    keeps answering `zq_p9.zq_m2` — `check_changes` never dropped `_norm_cache` (it does since a1df565: `_renormed`). -/
theorem C09_norm :
    let r1 := Norm.normPackage (fun d => d ∈ [[8, 9]]) false [] [8, 9] 1 [2]
    let r2 := Norm.normPackage (fun d => d ∈ [[8], [8, 9]]) false r1.2 [8, 9] 1 [2]
    r1.1 = some [9, 2] ∧ r2.1 = some [9, 2] ∧
      Norm.freshNorm (fun d => d ∈ [[8], [8, 9]]) [8, 9] 1 [2] = some [8, 9, 2] := by
  decide

end SuppModel.Witness
