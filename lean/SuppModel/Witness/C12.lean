/-
  C12 — witnesses: concrete evaluations of the model (current and legacy code), the refutation of the
  full `from`-branch statement, and the overlap example behind `noEarlyMark`.
-/
import SuppModel.Text.Spec

namespace SuppModel.Witness.C12
open SuppModel.Text

/-! ## the prefix: legacy split on `.`, whitespace, `(` only; the current code splits on every `\W` -/

theorem legacy_eq : prefixOfLegacy "x=fo".toList = "x=fo".toList ∧
    identSuffix asciiWord "x=fo".toList = "fo".toList ∧ prefixOf asciiWord "x=fo".toList = "fo".toList := by
  decide_text

theorem legacy_bracket : prefixOfLegacy "[fo".toList = "[fo".toList ∧
    identSuffix asciiWord "[fo".toList = "fo".toList ∧ prefixOf asciiWord "[fo".toList = "fo".toList := by
  decide_text

theorem legacy_comma : prefixOfLegacy "foo,fo".toList = "foo,fo".toList ∧
    identSuffix asciiWord "foo,fo".toList = "fo".toList ∧ prefixOf asciiWord "foo,fo".toList = "fo".toList := by
  decide_text

theorem legacy_plus : prefixOfLegacy "1+fo".toList = "1+fo".toList ∧
    identSuffix asciiWord "1+fo".toList = "fo".toList ∧ prefixOf asciiWord "1+fo".toList = "fo".toList := by
  decide_text

theorem legacy_colon : prefixOfLegacy "x:fo".toList = "x:fo".toList ∧
    identSuffix asciiWord "x:fo".toList = "fo".toList ∧ prefixOf asciiWord "x:fo".toList = "fo".toList := by
  decide_text

/-! ## legacy import prefix: the whole name under the cursor, not the part left of it -/

theorem legacy_import_prefix :
    (splitPkg (unmark "os.pa__supp_mark__th".toList)).2 = "path".toList ∧
    identSuffix asciiWord "import os.pa".toList = "pa".toList ∧
    assistPrefix asciiWord "import os.pa".toList = "pa".toList := by decide_text

/-! ## legacy proposals: no filter, the marked name under the cursor was proposed -/

theorem legacy_proposals :
    sortStr (keys [("ba__supp_mark__r".toList, ())]) = ["ba__supp_mark__r".toList] ∧
    marked "ba__supp_mark__r".toList = true ∧
    proposals [("ba__supp_mark__r".toList, ()), ("bar".toList, ())] = ["bar".toList] := by decide_text

/-! ## the legacy `from` branch (before ab8463e): `line.lstrip().startswith('from ') and ' import ' not in line` -/

/-- `from os import(pa|` (valid Python: `from os import(path)`) is still in the `from` branch, because
    `' import '` with both spaces does not occur; the prefix is `import(pa`, not `pa` -/
theorem from_paren :
    fromBranchLegacy "from os import(pa".toList = true ∧
    assistPrefixLegacy asciiWord "from os import(pa".toList = "import(pa".toList ∧
    assistPrefix asciiWord "from os import(pa".toList = "pa".toList ∧
    identSuffix asciiWord "from os import(pa".toList = "pa".toList := by decide_text

/-- the same with a tab after `import` -/
theorem from_tab :
    fromBranchLegacy "from os import\tpa".toList = true ∧
    assistPrefixLegacy asciiWord "from os import\tpa".toList = "import\tpa".toList ∧
    assistPrefix asciiWord "from os import\tpa".toList = "pa".toList ∧
    identSuffix asciiWord "from os import\tpa".toList = "pa".toList := by decide_text

/-- the full `from`-branch statement for the legacy branch -/
def C12_from_legacy_stmt : Prop :=
  ∀ (isWord : Char → Bool) (line : Str), isWord ' ' = false → isWord '.' = false →
    fromBranchLegacy line = true → fromPrefixLegacy line = identSuffix isWord line

/-- ... was false of the code -/
theorem C12_from_legacy_false : ¬ C12_from_legacy_stmt := by
  intro h
  exact absurd (h asciiWord "from os import(pa".toList (by decide) (by decide) (by decide_text)) (by decide_text)

/-- whereas the well-formed case is fine -/
theorem from_ok :
    fromBranchLegacy "from os.pa".toList = true ∧
    assistPrefixLegacy asciiWord "from os.pa".toList = "pa".toList ∧
    assistPrefix asciiWord "from os.pa".toList = "pa".toList ∧
    identSuffix asciiWord "from os.pa".toList = "pa".toList := by decide_text

/-! ## why `noEarlyMark`: the text left of the cursor can complete an earlier occurrence of the mark -/

theorem overlap :
    noEarlyMark "__supp_mark".toList = false ∧
    unmark ("__supp_mark".toList ++ Generated.sourceMark ++ "x".toList) = "supp_mark__x".toList ∧
    unmark ("__supp_mark".toList ++ Generated.sourceMark ++ "x".toList) ≠ "__supp_mark".toList ++ "x".toList := by
  decide_text

end SuppModel.Witness.C12
