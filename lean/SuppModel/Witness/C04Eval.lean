/-
  C04 (attribute evaluator) — witnesses proved by evaluation.

  g₁: 0 → [1, 2], 1 → [2], 2 → [1]   (1 and 2 form a cycle; 0 sits above it)

  * `legacy_history_dependent`: with `evalLegacy` (every computed value kept for good, the code before
    /repo 265f3e6) the answer to request 2 is [2, 1] on a fresh project and [2] after request 0:
    during request 0 node 2 was evaluated below 1, where its dependency 1 is cut, and that truncated
    value stayed in the slot.
  * `discipline_same_case`: the `cycle_guard` discipline answers [2, 1] both times.
  * `answer_not_cache_free`: also under the discipline a request's answer on a cyclic graph is not the
    cache-free value (a provisional value computed under one stack is reused under another within the
    same request) — history independence is NOT "memoisation of evalPure"; on nodes that meet no cut it is
    (`C04Eval_acyclic_exact`).
-/
import SuppModel.EvalMemo.Basic
namespace SuppModel.EvalMemo.Witness

def g₁ : Graph := [[1, 2], [2], [1]]

theorem legacy_history_dependent :
    (requestLegacy g₁ St.empty 2).1 = [2, 1] ∧
    (requestLegacy g₁ (runHistoryLegacy g₁ [0] St.empty) 2).1 = [2] := by decide +kernel

theorem legacy_not_history_independent :
    ¬ ∀ (g : Graph) (h : List Nat) (n : Nat),
      (requestLegacy g (runHistoryLegacy g h St.empty) n).1 = (requestLegacy g St.empty n).1 :=
  fun H => absurd (H g₁ [0] 2) (by decide +kernel)

theorem discipline_same_case :
    (request g₁ St.empty 2).1 = [2, 1] ∧ (request g₁ (runHistory g₁ [0] St.empty) 2).1 = [2, 1] := by decide +kernel

theorem answer_not_cache_free :
    (request g₁ St.empty 0).1 = [0, 1, 2, 2] ∧ (evalPure g₁ 4 [] 0).1 = [0, 1, 2, 2, 1] := by decide +kernel

end SuppModel.EvalMemo.Witness
