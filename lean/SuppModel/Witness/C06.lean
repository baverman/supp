/-
  C06 — witnesses proved by evaluation.
  * the pre-fix `InstanceValue._attrs` (before /repo commit bd90a2a) violated the instance lookup rule:
    two classes, D(B) overriding m; the legacy table answers B's m on an instance of D.
  * before /repo commit 51a17f1 supp bound the first parameter of EVERY function in a class body to an
    instance (FuncScope.get_argument), so `cls` inside a classmethod was looked up in the instance table
    (`clsParamLegacy`); when an attribute is both a class-body name and assigned through self the answer was
    the self-assignment, not the class-body definition Python's `cls.x` selects.  Since 51a17f1 `cls` is the class itself
    (`classAttrs`).
-/
import SuppModel.Attrs.Spec

namespace SuppModel.Witness.C06
open SuppModel.Attrs

/-- `class B: def m(self)` (site 10), `class D(B): def m(self)` (site 20) -/
def hOverride : Hier :=
  [(0, ⟨[], [("m", 10)], []⟩),
   (1, ⟨[.src 0], [("m", 20)], []⟩)]

/-- the hierarchy is in the property's domain and Python's lookup of `D().m` selects D's m -/
theorem C06_override_domain :
    Acyclic hOverride 1 ∧ NoRepeatedAncestors hOverride 1 ∧ instAssigned hOverride 1 "m" = false ∧
      classLookup hOverride 1 "m" = some (.site 20) := by decide +kernel

/-- the old code answered B's m -/
theorem C06_override_legacy : Dict.get (instAttrsLegacy hOverride 1) "m" = some (.site 10) := by decide +kernel

/-- the current code answers D's m -/
theorem C06_override_fixed : Dict.get (instAttrs hOverride 1) "m" = some (.site 20) := by decide +kernel

/-- so the instance-lookup statement is false of the legacy table -/
theorem C06_legacy_false :
    ¬ (∀ (h : Hier) (c : ClassId) (x : String), Acyclic h c → NoRepeatedAncestors h c →
        instAssigned h c x = false →
        Dict.get (instAttrsLegacy h c) x = (classLookup h c x).or (runtimeInstLookup h c x)) := by
  intro hall
  have := hall hOverride 1 "m" C06_override_domain.1 C06_override_domain.2.1 C06_override_domain.2.2.1
  rw [C06_override_legacy, C06_override_domain.2.2.2] at this
  cases this

/-- `class C: x = 0 (site 1); def m(self): self.x = 1 (site 2)` -/
def hCls : Hier := [(0, ⟨[], [("x", 1), ("m", 2)], [("x", 3)]⟩)]

/-- the old code consulted the instance table for `cls` (site 3); Python's `cls.x` is the class-body x (site 1),
    which the class table the current code consults gives -/
theorem C06_cls_as_instance_legacy :
    Dict.get (clsParamLegacy hCls 0) "x" = some (.multi [3]) ∧ classLookup hCls 0 "x" = some (.site 1) ∧
      Dict.get (classAttrs hCls 0) "x" = some (.site 1) := by decide +kernel

end SuppModel.Witness.C06
