/-
  Extract — negation witness: without the restriction on PEP 695 type parameters
  `extract_every_load_has_flow_stmt` is false of the current code.  The tree is what
  `ast.parse("b = int\ndef f[T: b](): pass\n")` serialises to; on it the real linter reports
  ('E42', 'UNKNOWN NAME: b', 2, 9).
-/
import SuppModel.Props.Extract

namespace SuppModel.Witness.Extract
open SuppModel.Flow SuppModel.Extract SuppModel.Props.Extract

private def nm (id ctx : String) (l c : Nat) : Ast :=
  .node "Name" (some (l, c)) ["id", "ctx"] [.str id, .str ctx]

def tpTree : Ast :=
  .node "Module" none ["body", "type_ignores"] [.list [
    .node "Assign" (some (1, 0)) ["targets", "value", "type_comment"] [.list [nm "b" "Store" 1 0], nm "int" "Load" 1 4, .none],
    .node "FunctionDef" (some (2, 0)) ["name", "args", "body", "decorator_list", "returns", "type_comment", "type_params"]
      [.str "f",
       .node "arguments" none ["posonlyargs", "args", "vararg", "kwonlyargs", "kw_defaults", "kwarg", "defaults"]
         [.list [], .list [], .none, .list [], .list [], .none, .list []],
       .list [.node "Pass" (some (2, 15)) [] []], .list [], .none, .none,
       .list [.node "TypeVar" (some (2, 6)) ["name", "bound"] [.str "T", nm "b" "Load" 2 9]]]
    ], .list []]

def tpLines : List Text.Str := ["b = int".toList, "def f[T: b](): pass".toList]

/-- the tree is well-shaped, extraction succeeds, and the read of `b` at (2, 9) has no flow -/
theorem type_params_read_gets_no_flow :
    wellShaped tpTree = true ∧ noTypeParams tpTree = false ∧ (some (2, 9), "b") ∈ loads tpTree ∧
    (match extract tpLines [] tpTree with
     | .ok st => st.flowAttrs.all (fun a => !(a.1 == some (2, 9) && a.2.1 == "b"))
     | .error _ => false) = true := by
  decide +kernel

theorem extract_every_load_has_flow_stmt_false : ¬ extract_every_load_has_flow_stmt := by
  intro h
  obtain ⟨hw, _, hk, hall⟩ := type_params_read_gets_no_flow
  obtain ⟨st, hst⟩ := extract_total tpLines [] tpTree hw
  obtain ⟨f, hf⟩ := h tpLines [] tpTree st hw hst _ hk
  rw [hst] at hall
  simpa using List.all_eq_true.mp hall _ hf

end SuppModel.Witness.Extract
