/-
  Two facts about bytes carry C15: a message of the data model survives the wire
  (`loads_of_dumps`), and a payload `dumps` refuses makes `dumps` of the reply pair fail
  (`dumps_tup_error`).  Everything else is about the message-level model.
-/
import SuppModel.Rpc.Server
import SuppModel.Props.C14

namespace SuppModel.Rpc
open SuppModel.Msgpack SuppModel.Props.C14

theorem reqOK_iff {r : Req} : reqOK r = true ↔ wf r.wire = true ∧ isClose r.name = false := by
  simp [reqOK]

theorem isClose_normV (x : Value) : isClose (normV x) = isClose x := by
  cases x <;> rfl

theorem normV_wire (r : Req) :
    normV r.wire = .arr [normV r.name, normV (.tup r.args), normV (.map r.kwargs)] := by
  simp [Req.wire, normV, normList]

theorem serverStep_wire {σ} (api : Api σ) (st : σ) {v : Value} {bs : Bytes} (hw : wf v = true)
    (hd : dumps v = .ok bs) : serverStep api st (some bs) = serverHandle api st (normV v) := by
  simp only [serverStep, loads_of_dumps hw hd]

theorem wf_not_unser (v : Value) (h : wf v = true) : unser v = false := by
  obtain ⟨bs, hd, _⟩ := C14_roundtrip v h
  simp [unser, hd]

theorem resultPair_eq (r : ApiResult) : ∃ b, resultPair r = .tup [payload r, .bool b] := by
  cases r <;> exact ⟨_, rfl⟩

theorem decodePair_resultPair (r : ApiResult) (hw : wf (payload r) = true) :
    decodePair (normV (resultPair r)) = expected r := by
  cases r <;> simp [resultPair, normV, normList, decodePair, raiseFrom, truthy, expected, hw]

theorem encodeReply_expected (r : ApiResult) (h : resOK r = true) :
    ∃ bs, encodeReply (resultPair r) = .ok bs ∧ clientDecode bs = expected r := by
  obtain ⟨b, hb⟩ := resultPair_eq r
  by_cases hw : wf (payload r) = true
  · obtain ⟨bs, hd, hl⟩ := C14_roundtrip (resultPair r) (by simpa [hb, wf, wfList] using hw)
    exact ⟨bs, by simp [encodeReply, hd], by simp only [clientDecode, hl, decodePair_resultPair r hw]⟩
  · -- `dumps` raises, the fallback reply is sent
    cases he : dumps (payload r) with
    | ok _ => simp [resOK, unser, hw, he] at h
    | error e =>
      obtain ⟨e', he'⟩ := dumps_tup_error [.bool b] he
      obtain ⟨bs, hd, hl⟩ := C14_roundtrip fallback (by decide)
      refine ⟨bs, by simp [encodeReply, hb, he', hd], ?_⟩
      simp [clientDecode, hl, fallback, normV, normList, decodePair, raiseFrom, truthy, expected, hw]

theorem serverStep_request {σ} (api : Api σ) (st : σ) (r : Req) (bs : Bytes)
    (hr : reqOK r = true) (hd : dumps r.wire = .ok bs)
    (hres : resOK (inprocStep api st r).2 = true) :
    ∃ rb, serverStep api st (some bs) = ⟨(inprocStep api st r).1, some rb, none⟩ ∧
      clientDecode rb = expected (inprocStep api st r).2 := by
  obtain ⟨hw, hcl⟩ := reqOK_iff.mp hr
  obtain ⟨rb, he, hc⟩ := encodeReply_expected _ hres
  refine ⟨rb, ?_, hc⟩
  simp only [inprocStep] at he ⊢
  simp only [serverStep_wire api st hw hd, normV_wire, serverHandle, isClose_normV, hcl, process, he,
    Bool.false_eq_true, if_false]

theorem clientCall_eq_inproc {σ} (api : Api σ) (st : σ) (r : Req)
    (hr : reqOK r = true) (hres : resOK (inprocStep api st r).2 = true) :
    clientCall api st r = ((inprocStep api st r).1, none, expected (inprocStep api st r).2) := by
  obtain ⟨bs, hd, _⟩ := C14_roundtrip _ (reqOK_iff.mp hr).1
  obtain ⟨rb, hs, hc⟩ := serverStep_request api st r bs hr hd hres
  unfold clientCall
  rw [hd]
  show (_, _, _) = _
  rw [hs]
  simp only [hc]

theorem serverStep_close {σ} (api : Api σ) (st : σ) (args : List Value) (kwargs : List (Value × Value))
    (bs : Bytes) (hw : wf (Req.wire ⟨.str closeName, args, kwargs⟩) = true)
    (hd : dumps (Req.wire ⟨.str closeName, args, kwargs⟩) = .ok bs) :
    serverStep api st (some bs) = ⟨st, none, some .closed⟩ := by
  simp [serverStep_wire api st hw hd, normV_wire, serverHandle, normV, isClose]

theorem serverRun_exit {σ} (api : Api σ) (st : σ) (m : Option Bytes) (ms : List (Option Bytes))
    (st' : σ) (e : Exit) (h : serverStep api st m = ⟨st', none, some e⟩) :
    serverRun api st (m :: ms) = ([], st', some e) := by
  simp [serverRun, h]

theorem inproc_cons {σ} (api : Api σ) (st : σ) (r : Req) (rs : List Req) :
    inproc api st (r :: rs) =
      ((inprocStep api st r).2 :: (inproc api (inprocStep api st r).1 rs).1,
       (inproc api (inprocStep api st r).1 rs).2) := by
  simp [inproc]

theorem inproc_append {σ} (api : Api σ) (st : σ) (xs ys : List Req) :
    inproc api st (xs ++ ys) =
      ((inproc api st xs).1 ++ (inproc api (inproc api st xs).2 ys).1,
       (inproc api (inproc api st xs).2 ys).2) := by
  induction xs generalizing st with
  | nil => simp [inproc]
  | cons x xs ih => simp [inproc_cons, ih]

theorem inproc_length {σ} (api : Api σ) (st : σ) (rs : List Req) :
    (inproc api st rs).1.length = rs.length := by
  induction rs generalizing st with
  | nil => simp [inproc]
  | cons x xs ih => simp [inproc_cons, ih]

theorem session_eq_inproc {σ} (api : Api σ) (st : σ) (rs : List Req)
    (hr : ∀ r ∈ rs, reqOK r = true)
    (hres : ∀ x ∈ (inproc api st rs).1, resOK x = true) :
    session api st rs = ((inproc api st rs).1.map expected, (inproc api st rs).2, none) := by
  induction rs generalizing st with
  | nil => simp [session, inproc]
  | cons r rs ih =>
    rw [inproc_cons] at hres ⊢
    rw [List.forall_mem_cons] at hr hres
    simp [session, clientCall_eq_inproc api st r hr.1 hres.1, ih _ hr.2 hres.2]

theorem serverRun_eq_inproc {σ} (api : Api σ) (st : σ) (rs : List Req) (bss : List Bytes)
    (henc : Encoded rs bss)
    (hr : ∀ r ∈ rs, reqOK r = true)
    (hres : ∀ x ∈ (inproc api st rs).1, resOK x = true) :
    ∃ reps, serverRun api st (bss.map some) = (reps, (inproc api st rs).2, none) ∧
      reps.map clientDecode = (inproc api st rs).1.map expected := by
  fun_induction Encoded rs bss generalizing st with
  | case1 => exact ⟨[], by simp [serverRun, inproc], by simp [inproc]⟩
  | case2 r rs b bs ih =>
    rw [inproc_cons] at hres ⊢
    rw [List.forall_mem_cons] at hr hres
    obtain ⟨rb, hs, hc⟩ := serverStep_request api st r b hr.1 henc.1 hres.1
    obtain ⟨reps, hrun, hdec⟩ := ih _ henc.2 hr.2 hres.2
    exact ⟨rb :: reps, by simp [serverRun, hs, hrun], by simp [hc, hdec]⟩
  | case3 => exact henc.elim

theorem encoded_exists (rs : List Req) (hr : ∀ r ∈ rs, reqOK r = true) :
    ∃ bss, Encoded rs bss ∧ bss.length = rs.length := by
  induction rs with
  | nil => exact ⟨[], trivial, rfl⟩
  | cons r rs ih =>
    rw [List.forall_mem_cons] at hr
    obtain ⟨b, hd, _⟩ := C14_roundtrip _ (reqOK_iff.mp hr.1).1
    obtain ⟨bs, hb, hl⟩ := ih hr.2
    exact ⟨b :: bs, ⟨hd, hb⟩, by simp [hl]⟩

theorem expected_failing (r : ApiResult) (h : failing r = true) : ∃ m, expected r = .exception m := by
  unfold expected
  split
  · cases r with
    | ok v => simp_all [failing, payload]
    | raised c m => exact ⟨_, rfl⟩
  · exact ⟨_, rfl⟩

theorem session_isolated {σ} (api : Api σ) (st : σ) (pre : List Req) (bad : Req) (suf : List Req)
    (hr : ∀ r ∈ pre ++ bad :: suf, reqOK r = true)
    (hres : ∀ x ∈ (inproc api st (pre ++ bad :: suf)).1, resOK x = true) :
    (session api st (pre ++ bad :: suf)).2 = ((inproc api st (pre ++ bad :: suf)).2, none) ∧
    clientCall api (inproc api st pre).2 bad =
      ((inprocStep api (inproc api st pre).2 bad).1, none,
        expected (inprocStep api (inproc api st pre).2 bad).2) ∧
    (session api st (pre ++ bad :: suf)).1.drop (pre.length + 1) =
      (inproc api (inprocStep api (inproc api st pre).2 bad).1 suf).1.map expected := by
  have hs := session_eq_inproc api st _ hr hres
  rw [inproc_append, inproc_cons] at hres
  refine ⟨by rw [hs], clientCall_eq_inproc api _ bad (hr bad (by simp)) (hres _ (by simp)), ?_⟩
  rw [hs, inproc_append, inproc_cons, List.map_append, List.map_cons,
    ← inproc_length api st pre, ← List.length_map expected, List.drop_length_add_append]
  rfl

-- the server-side normalisations undo the wire's tuple -> list

theorem asTuple_normV (xs : List Value) (h : tupFreeList xs = true) :
    asTuple (normV (.tup xs)) = some (.tup xs) := by
  simp [normV, asTuple, normList_of_tupFree xs h]

theorem normV_doc (s p f : Value) (h : docArgs s p f = true) :
    ∃ u xs, s = .str u ∧ p = .tup xs ∧
      normV (.tup [s, p, f]) = .arr [s, .arr xs, f] := by
  simp only [docArgs, Bool.and_eq_true] at h
  obtain ⟨⟨hs, hp⟩, hf⟩ := h
  split at hs
  · split at hp
    · exact ⟨_, _, rfl, rfl,
        by simp [normV, normList, normList_of_tupFree _ hp, normV_of_tupFree f hf]⟩
    · cases hp
  · cases hs

theorem bindArgs_exact (params : List (Bytes × Option Value)) (as : List Value)
    (h : as.length = params.length) : bindArgs params as [] = some as := by
  simp [bindArgs, h, fillRest]

end SuppModel.Rpc
