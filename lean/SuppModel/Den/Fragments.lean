/- The syntactic classes of `Sem` (`isEvents`, `isReads`, `isBinds`, `isName`): induction principles, and what the
   closed forms, `exNames`, `lateRead` and the fragments say about their members. -/
import SuppModel.Den.Closed
namespace SuppModel.Den

/-- used as `apply events_induction`: the goal `∀ s, isEvents s = true → …` fixes `P` -/
theorem events_induction {P : Stmt → Prop} (skip : P .skip) (bind : ∀ x d, P (.bind x d)) (read : ∀ x r, P (.read x r))
    (seq : ∀ s t, isEvents s = true → isEvents t = true → P s → P t → P (.seq s t)) :
    ∀ s, isEvents s = true → P s := by
  intro s h
  induction s with
  | skip => exact skip
  | bind x d => exact bind x d
  | read x r => exact read x r
  | seq s t ihs iht =>
      simp only [isEvents, Bool.and_eq_true] at h
      exact seq s t h.1 h.2 (ihs h.1) (iht h.2)
  | _ => simp [isEvents] at h

theorem reads_induction {P : Stmt → Prop} (skip : P .skip) (read : ∀ x r, P (.read x r))
    (seq : ∀ s t, isReads s = true → isReads t = true → P s → P t → P (.seq s t)) :
    ∀ s, isReads s = true → P s := by
  intro s h
  induction s with
  | skip => exact skip
  | read x r => exact read x r
  | seq s t ihs iht =>
      simp only [isReads, Bool.and_eq_true] at h
      exact seq s t h.1 h.2 (ihs h.1) (iht h.2)
  | _ => simp [isReads] at h

theorem binds_induction {P : Stmt → Prop} (skip : P .skip) (bind : ∀ x d, P (.bind x d))
    (seq : ∀ s t, isBinds s = true → isBinds t = true → P s → P t → P (.seq s t)) :
    ∀ s, isBinds s = true → P s := by
  intro s h
  induction s with
  | skip => exact skip
  | bind x d => exact bind x d
  | seq s t ihs iht =>
      simp only [isBinds, Bool.and_eq_true] at h
      exact seq s t h.1 h.2 (ihs h.1) (iht h.2)
  | _ => simp [isBinds] at h

theorem isReads_isEvents (s : Stmt) (h : isReads s = true) : isEvents s = true := by
  revert s; apply reads_induction <;> simp +contextual [isEvents]

theorem isBinds_isEvents (s : Stmt) (h : isBinds s = true) : isEvents s = true := by
  revert s; apply binds_induction <;> simp +contextual [isEvents]

theorem isReads_pass_not_gen (x : Ident) (v : Option Site) : ∀ s, isReads s = true → pass s x ∧ ¬ gen s x v := by
  apply reads_induction <;> simp +contextual [pass, gen]

theorem isReads_passAt_mem (r : RId) (x : Ident) : ∀ s, isReads s = true → passAt s r x → r ∈ readIds s := by
  apply reads_induction
  case seq =>
    intro s t _ _ ihs iht
    simp only [passAt, readIds, readsOf, List.map_append, List.mem_append] at *
    grind
  all_goals simp [passAt, readIds, readsOf]

theorem isReads_not_genAt (r : RId) (x : Ident) (v : Option Site) : ∀ s, isReads s = true → ¬ genAt s r x v := by
  apply reads_induction
  case seq =>
    intro s t hs _ ihs iht
    have := (isReads_pass_not_gen x v s hs).2
    simp only [genAt]
    grind
  all_goals simp [genAt]

theorem isBinds_noReads (r : RId) (x : Ident) (v : Option Site) :
    ∀ s, isBinds s = true → ¬ passAt s r x ∧ ¬ genAt s r x v := by
  apply binds_induction <;> simp +contextual [passAt, genAt]

/-! `for` is `it; while <has next>: tg; b else: e` (rule `Exec.for_`), and so are its closed forms -/

theorem for_gen (it tg b e : Stmt) (x : Ident) (v : Option Site) :
    gen (.for_ it tg b e) x v ↔ gen (.seq it (.while_ .skip (.seq tg b) e)) x v := by
  dsimp only [gen, pass]; grind

theorem for_pass (it tg b e : Stmt) (x : Ident) :
    pass (.for_ it tg b e) x ↔ pass (.seq it (.while_ .skip (.seq tg b) e)) x := by
  dsimp only [pass]; grind

theorem for_genAt (it tg b e : Stmt) (h : isBinds tg = true) (r : RId) (x : Ident) (v : Option Site) :
    genAt (.for_ it tg b e) r x v ↔ genAt (.seq it (.while_ .skip (.seq tg b) e)) r x v := by
  have n := isBinds_noReads r x v tg h
  dsimp only [gen, pass, genAt, passAt]; grind

theorem for_passAt (it tg b e : Stmt) (h : isBinds tg = true) (r : RId) (x : Ident) :
    passAt (.for_ it tg b e) r x ↔ passAt (.seq it (.while_ .skip (.seq tg b) e)) r x := by
  have n := isBinds_noReads r x none tg h
  dsimp only [pass, passAt]; grind

theorem isBinds_mem (x : Ident) :
    ∀ s, isBinds s = true → (∀ v, gen s x v → x ∈ bindsOf s) ∧ (pass s x → x ∉ bindsOf s) := by
  apply binds_induction
  case seq => intro s t _ _; dsimp only [gen, pass, bindsOf]; grind
  all_goals simp +contextual [gen, pass, bindsOf]

/-- `isBinds_mem` with `localsOf`, as `funcEntry` has it (on binding sequences `localsOf = bindsOf`) -/
theorem isBinds_pass_not_gen (x : Ident) (v : Option Site) :
    ∀ s, isBinds s = true → x ∉ localsOf s → pass s x ∧ ¬ gen s x v := by
  apply binds_induction
  case seq => intro s t _ _; dsimp only [gen, pass, localsOf]; grind
  all_goals simp +contextual [gen, pass, localsOf]

theorem isBinds_reads : ∀ s, isBinds s = true → readsOf s = [] := by
  apply binds_induction <;> simp +contextual [readsOf]

theorem isEvents_inFrag (st : Bool) : ∀ s, isEvents s = true → inFrag st s = true := by
  apply events_induction <;> simp +contextual [inFrag]

theorem isEvents_exNames : ∀ s, isEvents s = true → exNames s = [] := by
  apply events_induction <;> simp +contextual [exNames]

theorem late_events (r : RId) (x : Ident) : ∀ s, isEvents s = true → lateRead s r x = false := by
  apply events_induction <;> simp +contextual [lateRead]

theorem isName_isEvents (s : Stmt) (h : isName s = true) : isEvents s = true := by
  cases s <;> first | rfl | simp [isName] at h

theorem exName_binds (nm : Stmt) (y : Ident) (h : isName nm = true) (e : exName nm = some y) : y ∈ bindsOf nm := by
  cases nm <;> simp_all [isName, exName, bindsOf]

/-- no late reads without comprehensions -/
theorem lateRead_of_strict (r : RId) (x : Ident) (s : Stmt) :
    (inFrag true s = true → lateRead s r x = false) ∧ (inFrag.inHs true s = true → lateRead s r x = false) := by
  induction s <;> dsimp only [inFrag, inFrag.inHs, lateRead] <;>
    simp +contextual [late_events, isReads_isEvents, isBinds_isEvents, isName_isEvents, *]

end SuppModel.Den
