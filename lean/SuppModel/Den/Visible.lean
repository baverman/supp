/- C01: a name an execution finds bound at a read has a definition in supp's table at that read (name level; one
   scope body without comprehensions, jumps and raise points anywhere); key sets only grow along a region. -/
import SuppModel.Den.Fragments
namespace SuppModel.Den

/-- handler chains occur only as the handler part of a `tryx` (and `hnil` only at the end of a chain), for-targets are
    bindings, no binding of a name declared `global`, no comprehension (C01_visible does not cover reads inside them) -/
def wf : Stmt → Bool
  | .hnil => false
  | .hcons _ _ _ _ => false
  | .gbind _ _ => false
  | .seq s t => wf s && wf t
  | .ite c a b => wf c && wf a && wf b
  | .while_ c b e => wf c && wf b && wf e
  | .for_ it tg b e => wf it && isBinds tg && wf tg && wf b && wf e
  | .tryx _ _ b hs e => wf b && isHcons hs && wfH hs && wf e
  | .fin s f => wf s && wf f
  | .comp _ _ => false
  | .cfor _ _ _ => false
  | .def_ pre _ _ _ _ => wf pre
  | .lam pre _ _ => wf pre
  | .cls pre _ _ _ => wf pre
  | _ => true
where
  wfH : Stmt → Bool
  | .hnil => true
  | .hcons ty nm hb rest => wf ty && wf nm && wf hb && wfH rest
  | _ => false

def HasDef (l : Alts) : Prop := ∃ d, some d ∈ l

/-- a region never loses a name: on every statement either `x` passes or `s` itself defines it -/
theorem pass_or_gen (x : Ident) (s : Stmt) (h : wf s = true) : pass s x ∨ ∃ d, gen s x (some d) := by
  induction s <;> dsimp only [wf, pass, gen] at * <;> grind

theorem keys_grow (ks : List Ident) (s : Stmt) (T : Tbl) (x : Ident) (hwf : wf s = true)
    (h : HasDef (T.get x)) : HasDef ((A ks s T).get x) := by
  obtain ⟨d, hd⟩ := h
  rcases pass_or_gen x s hwf with hp | ⟨d', hg⟩
  · exact ⟨d, (A_normal ks s T x (some d)).2 (.inr ⟨hp, hd⟩)⟩
  · exact ⟨d', (A_normal ks s T x (some d')).2 (.inl hg)⟩

/-- `x` is bound -/
def B (σ : State) (x : Ident) : Prop := ∃ d, σ x = some d
/-- `s` itself contributes a definition of `x` to the table after it -/
def G1 (s : Stmt) (x : Ident) : Prop := ∃ d, gen s x (some d)
/-- the part of `s` supp puts before read `r` contributes a definition of `x` -/
def GA1 (s : Stmt) (r : RId) (x : Ident) : Prop := ∃ d, genAt s r x (some d)

def InvN (s : Stmt) (x : Ident) (σ σ' : State) : Prop := B σ' x → G1 s x ∨ (pass s x ∧ B σ x)
def InvS (s : Stmt) (r : RId) (x : Ident) (σ σ' : State) : Prop := B σ' x → GA1 s r x ∨ (passAt s r x ∧ B σ x)

/-- every outcome: normal completion, jumps, exceptions (first part) and the observation stop (second part) -/
def Vis (s : Stmt) (x : Ident) (σ : State) (o : Outcome) (σ' : State) : Prop :=
  ((∀ r, o ≠ .stop r) → InvN s x σ σ') ∧ (∀ r, o = .stop r → InvS s r x σ σ')

theorem B_upd (σ : State) (y : Ident) (d : Site) (x : Ident) : B (σ.upd y d) x ↔ x = y ∨ B σ x := by
  by_cases e : x = y <;> simp [B, State.upd, e]

theorem B_del (nm : Stmt) (σ : State) (x : Ident) (h : B (delEx nm σ) x) : B σ x := by
  unfold delEx at h
  cases hn : exName nm with
  | none => simpa [hn] using h
  | some y => by_cases e : x = y <;> simp_all [B, State.del]

theorem wfH_isHcons (s : Stmt) (h : wf.wfH s = true) (hne : s ≠ .hnil) : isHcons s = true := by
  cases s <;> simp_all [wf.wfH, isHcons]

theorem exec_vis_aux (x : Ident) (h : Exec s σ o σ') (hw : wf s = true ∨ wf.wfH s = true) : Vis s x σ o σ' := by
  induction h with
    simp only [wf, wf.wfH, Bool.and_eq_true, Bool.false_eq_true, or_false, false_or] at hw
  | @bind y d σ =>
      simp only [Vis, InvN, G1, gen, pass, B_upd, reduceCtorEq, false_imp_iff, implies_true, and_true]
      grind
  | @hMatch ty σ nm σ2 hb o σ3 rest _ _ _ hns _ ihnm ihhb =>
      have gn := ihnm (.inl hw.1.1.2); have gb := ihhb (.inl hw.1.2)
      have pty := pass_or_gen x ty hw.1.1.1
      have hdel := B_del nm σ3 x
      simp only [Vis, InvN, InvS, G1, GA1, gen, pass, reduceCtorEq] at gn gb ⊢
      grind
  | @def_ pre σ σ1 f d ps body _ ihp =>
      have gp := ihp (.inl hw)
      simp only [Vis, InvN, G1, gen, pass, B_upd, reduceCtorEq, false_imp_iff, implies_true, and_true] at gp ⊢
      grind
  | @clsN pre σ σ1 body σ2 c d _ _ ihp _ =>
      have gp := ihp (.inl hw)
      simp only [Vis, InvN, G1, gen, pass, B_upd, reduceCtorEq, false_imp_iff, implies_true, and_true] at gp ⊢
      grind
  | @for_ it tg b e σ o σ' _ ih =>
      have g := ih (.inl (by simp [wf, hw]))
      simp only [Vis, InvN, InvS, G1, GA1, for_gen, for_pass, for_genAt it tg b e hw.1.1.1.2,
        for_passAt it tg b e hw.1.1.1.2] at g ⊢
      exact g
  | @whileStep c σ σ1 b ob σ2 e o σ3 _ _ hob _ ihc ihb ihw =>
      have gc := ihc (.inl hw.1.1); have gb := ihb (.inl hw.1.2)
      have gw := ihw (.inl (by simp only [wf, hw, Bool.and_self]))
      dsimp only [Vis, InvN, InvS, G1, GA1, gen, pass, genAt, passAt] at gc gb gw ⊢
      grind
  -- every other rule: unfold the closed form one level (`dsimp`, not `simp`: `simp` also tries the catch-all
  -- equations of `genAt` / `passAt` on every variable argument).  Where a rule leaves a part unexecuted, that part
  -- still passes `x` or defines it (`pass_or_gen`), which is why jumps and exceptions lose nothing; the closed forms
  -- are generous enough that only these four rules (and the type expression in `hMatch`) need it
  | seqA | whileBrk | whileAbort | tryJ =>
    dsimp only [Vis, InvN, InvS, G1, GA1, gen, pass, genAt, passAt] at *
    grind [pass_or_gen]
  | _ =>
    dsimp only [Vis, InvN, InvS, G1, GA1, gen, pass, genAt, passAt] at *
    grind

theorem exec_vis (x : Ident) (h : Exec s σ o σ') :
    (wf s = true → Vis s x σ o σ') ∧ (wf.wfH s = true → Vis s x σ o σ') :=
  ⟨fun hw => exec_vis_aux x h (.inl hw), fun hw => exec_vis_aux x h (.inr hw)⟩

end SuppModel.Den
