/- C03: every syntactic path of the fragment is an execution (tests, trip counts, raise points and handler matches
   are free decisions), hence every alternative supp lists is realised. -/
import SuppModel.Den.Fragments
namespace SuppModel.Den

def Any (s : Stmt) : Prop := ∀ σ : State, ∃ σ', Exec s σ .normal σ'
def Can (s : Stmt) (x : Ident) : Prop :=
  ∀ (σ : State) (v : Option Site), Out s x (σ x) v → ∃ σ', Exec s σ .normal σ' ∧ σ' x = v
def CanAt (s : Stmt) (x : Ident) : Prop :=
  ∀ (r : RId) (σ : State) (v : Option Site), OutAt s r x (σ x) v → ∃ σ', Exec s σ (.stop r) σ' ∧ σ' x = v

def Real (s : Stmt) (x : Ident) : Prop := Any s ∧ Can s x ∧ CanAt s x

/-- every normal or stopped execution of `s1` is an execution of `s` -/
abbrev Embeds (s1 s : Stmt) : Prop :=
  ∀ {σ σ' o}, (o = .normal ∨ ∃ r, o = .stop r) → Exec s1 σ o σ' → Exec s σ o σ'

/-- `s` is realisable when its closed forms are covered by those of realisable statements that embed into `s`
    (three of them: enough for loops and `try`; repeat one where fewer are needed) -/
theorem real_of_cover {s s1 s2 s3 : Stmt} {x : Ident} (e1 : Embeds s1 s) (e2 : Embeds s2 s) (e3 : Embeds s3 s)
    (hn : ∀ u v, Out s x u v → Out s1 x u v ∨ Out s2 x u v ∨ Out s3 x u v)
    (hs : ∀ r u v, OutAt s r x u v → OutAt s1 r x u v ∨ OutAt s2 r x u v ∨ OutAt s3 r x u v)
    (r1 : Real s1 x) (r2 : Real s2 x) (r3 : Real s3 x) : Real s x := by
  have lift {t σ o v} (e : Embeds t s) (ho : o = .normal ∨ ∃ r, o = .stop r) :
      (∃ σ', Exec t σ o σ' ∧ σ' x = v) → ∃ σ', Exec s σ o σ' ∧ σ' x = v :=
    fun ⟨σ', h1, h2⟩ => ⟨σ', e ho h1, h2⟩
  refine ⟨fun σ => let ⟨σ', h⟩ := r1.1 σ; ⟨σ', e1 (.inl rfl) h⟩, fun σ v ho => ?_, fun r σ v ho => ?_⟩
  · rcases hn _ _ ho with h | h | h
    · exact lift e1 (.inl rfl) (r1.2.1 σ v h)
    · exact lift e2 (.inl rfl) (r2.2.1 σ v h)
    · exact lift e3 (.inl rfl) (r3.2.1 σ v h)
  · rcases hs _ _ _ ho with h | h | h
    · exact lift e1 (.inr ⟨r, rfl⟩) (r1.2.2 r σ v h)
    · exact lift e2 (.inr ⟨r, rfl⟩) (r2.2.2 r σ v h)
    · exact lift e3 (.inr ⟨r, rfl⟩) (r3.2.2 r σ v h)

theorem real_of_embed {s s1 : Stmt} {x : Ident} (e : Embeds s1 s)
    (hn : ∀ u v, Out s x u v → Out s1 x u v) (hs : ∀ r u v, OutAt s r x u v → OutAt s1 r x u v)
    (r1 : Real s1 x) : Real s x :=
  real_of_cover e e e (fun u v h => .inl (hn u v h)) (fun r u v h => .inl (hs r u v h)) r1 r1 r1

theorem real_skip (x : Ident) : Real .skip x := by
  refine ⟨fun _ => ⟨_, .skip⟩, fun σ v h => ?_, fun r σ v h => ?_⟩
  · simp only [Out, gen, pass, false_or, true_and] at h; exact ⟨σ, .skip, h⟩
  · simp [OutAt, genAt, passAt] at h

theorem real_bind (y : Ident) (d : Site) (x : Ident) : Real (.bind y d) x := by
  refine ⟨fun _ => ⟨_, .bind⟩, fun σ v h => ⟨σ.upd y d, .bind, ?_⟩, fun r σ v h => ?_⟩
  · simp only [Out, gen, pass] at h
    rcases h with ⟨h1, h2⟩ | ⟨h1, h2⟩ <;> simp [State.upd, h1, h2]
  · simp [OutAt, genAt, passAt] at h

theorem real_read (y : Ident) (r' : RId) (x : Ident) : Real (.read y r') x := by
  refine ⟨fun σ => ⟨σ, .read⟩, fun σ v h => ?_, fun r σ v h => ?_⟩
  · simp only [Out, gen, pass, false_or, true_and] at h; exact ⟨σ, .read, h⟩
  · simp only [OutAt, genAt, passAt, false_or] at h
    obtain ⟨rfl, h2⟩ := h
    exact ⟨σ, .readStop, h2⟩

/-- `t` produces `v` whatever `s` did, or passes on what `s` yields -/
theorem out_seq {s t : Stmt} {x : Ident} {u v : Option Site} :
    Out (.seq s t) x u v ↔ gen t x v ∨ (pass t x ∧ Out s x u v) := by
  simp only [Out, gen, pass]; grind

theorem outAt_seq {s t : Stmt} {r : RId} {x : Ident} {u v : Option Site} :
    OutAt (.seq s t) r x u v ↔ OutAt s r x u v ∨ genAt t r x v ∨ (passAt t r x ∧ Out s x u v) := by
  simp only [Out, OutAt, genAt, passAt]; grind

theorem real_seq {s t : Stmt} {x : Ident} (a : Real s x) (b : Real t x) : Real (.seq s t) x := by
  refine ⟨fun σ => ?_, fun σ v h => ?_, fun r σ v h => ?_⟩
  · obtain ⟨σ1, h1⟩ := a.1 σ
    obtain ⟨σ2, h2⟩ := b.1 σ1
    exact ⟨σ2, .seqN h1 h2⟩
  · rcases out_seq.1 h with h | ⟨hp, h⟩
    · obtain ⟨σ1, h1⟩ := a.1 σ
      obtain ⟨σ2, h2, e2⟩ := b.2.1 σ1 v (.inl h)
      exact ⟨σ2, .seqN h1 h2, e2⟩
    · obtain ⟨σ1, h1, e1⟩ := a.2.1 σ v h
      obtain ⟨σ2, h2, e2⟩ := b.2.1 σ1 v (.inr ⟨hp, e1⟩)
      exact ⟨σ2, .seqN h1 h2, e2⟩
  · rcases outAt_seq.1 h with h | h | ⟨hp, h⟩
    · obtain ⟨σ1, h1, e1⟩ := a.2.2 r σ v h
      exact ⟨σ1, .seqA h1 (by simp), e1⟩
    · obtain ⟨σ1, h1⟩ := a.1 σ
      obtain ⟨σ2, h2, e2⟩ := b.2.2 r σ1 v (.inl h)
      exact ⟨σ2, .seqN h1 h2, e2⟩
    · obtain ⟨σ1, h1, e1⟩ := a.2.1 σ v h
      obtain ⟨σ2, h2, e2⟩ := b.2.2 r σ1 v (.inr ⟨hp, e1⟩)
      exact ⟨σ2, .seqN h1 h2, e2⟩

/-- a normal or stopped execution of `s; t` gives an execution of `w`, given `w`'s rule for "`s` normally, then `t`" and
    its rule for a stop inside `s` (`w` may start earlier, in `σ0`: the loop after one more trip) -/
theorem of_seq {s t w : Stmt} {σ0 σ σ' : State} {o : Outcome}
    (hN : ∀ {σ1}, Exec s σ .normal σ1 → Exec t σ1 o σ' → Exec w σ0 o σ')
    (hS : ∀ {r}, Exec s σ (.stop r) σ' → Exec w σ0 (.stop r) σ')
    (ho : o = .normal ∨ ∃ r, o = .stop r) (h : Exec (.seq s t) σ o σ') : Exec w σ0 o σ' := by
  cases h with
  | seqN h1 h2 => exact hN h1 h2
  | seqA h1 hne =>
      rcases ho with rfl | ⟨r, rfl⟩
      · exact absurd rfl hne
      · exact hS h1

theorem while_of_exit {c b e : Stmt} : Embeds (.seq c e) (.while_ c b e) :=
  of_seq .whileExit .whileS

/-- one more trip: test, body, then whatever already is an execution of the loop -/
theorem while_of_step {c b e t : Stmt} (emb : Embeds t (.while_ c b e)) : Embeds (.seq c (.seq b t)) (.while_ c b e) :=
  fun ho h => of_seq (fun h1 h2 => of_seq (fun h2 h3 => .whileStep h1 h2 (.inl rfl) (emb ho h3))
    (fun h2 => .whileAbort h1 h2 (.inr (.inr ⟨_, rfl⟩))) ho h2) .whileS ho h

theorem ite_of_seqT {c a b : Stmt} : Embeds (.seq c a) (.ite c a b) :=
  of_seq .iteT .iteS

theorem ite_of_seqF {c a b : Stmt} : Embeds (.seq c b) (.ite c a b) :=
  of_seq .iteF .iteS

theorem fin_of_seq {s f : Stmt} : Embeds (.seq s f) (.fin s f) := fun ho h =>
  of_seq (fun h1 h2 => by
    rcases ho with rfl | ⟨r, rfl⟩
    · exact .finN h1 (by simp) h2
    · exact .finA h1 (by simp) h2 (by simp)) .finS ho h

theorem def_of_seq {pre ps body : Stmt} {f : Ident} {d : Site} : Embeds (.seq pre (.bind f d)) (.def_ pre f d ps body) :=
  of_seq (fun h1 h2 => by cases h2; exact .def_ h1) .defS

theorem cls_of_seq {pre body : Stmt} {c : Ident} {d : Site} (hb : Any body) :
    Embeds (.seq pre (.bind c d)) (.cls pre c d body) :=
  of_seq (fun {σ1} h1 h2 => by cases h2; obtain ⟨σ2, h3⟩ := hb σ1; exact .clsN h1 h3) .clsS

theorem lam_of {pre ps body : Stmt} : Embeds pre (.lam pre ps body) := by
  rintro _ _ _ (rfl | ⟨r, rfl⟩) h
  · exact .lam h
  · exact .lamS h

theorem try_of_else {r1 r2 : Bool} {b hs e : Stmt} : Embeds (.seq b e) (.tryx r1 r2 b hs e) :=
  of_seq .tryN (fun h1 => .tryJ h1 (by simp) (by simp))

theorem try_of_handler {r1 : Bool} {b hs e : Stmt} : Embeds (.seq b hs) (.tryx r1 true b hs e) :=
  of_seq .tryX2 (fun h1 => .tryJ h1 (by simp) (by simp))

theorem reads_exec (σ : State) : ∀ s, isReads s = true → Exec s σ .normal σ :=
  reads_induction .skip (fun _ _ => .read) fun _ _ _ _ hs ht => .seqN hs ht

/-- an except-clause name other than `x`: binding and un-binding it leave `x` alone -/
theorem name_facts (nm : Stmt) (x : Ident) (h : isName nm = true) (hx : x ∉ bindsOf nm) :
    (∀ v, ¬ gen nm x v) ∧ (∀ σ : State, ∃ σ2, Exec nm σ .normal σ2 ∧ σ2 x = σ x) ∧
    (∀ σ : State, delEx nm σ x = σ x) := by
  cases nm <;> simp [isName] at h
  · exact ⟨by simp [gen], fun σ => ⟨σ, .skip, rfl⟩, fun σ => by simp [delEx, exName]⟩
  · rename_i y d
    simp only [bindsOf, List.mem_singleton] at hx
    refine ⟨by simp [gen, hx], fun σ => ⟨σ.upd y d, .bind, by simp [State.upd, hx]⟩, fun σ => ?_⟩
    simp [delEx, exName, State.del, hx]

def RealH (s : Stmt) (x : Ident) : Prop := (isHcons s = true → Any s) ∧ Can s x ∧ CanAt s x

theorem hcons_of_rest {ty nm hb rest : Stmt} {σ σ' : State} {o : Outcome} (hty : isReads ty = true)
    (h : Exec rest σ o σ') : Exec (.hcons ty nm hb rest) σ o σ' :=
  .hSkip (by rintro rfl; cases h) (reads_exec σ ty hty) h

theorem realH_hcons {ty nm hb rest : Stmt} {x : Ident} (hty : isReads ty = true) (hnm : isName nm = true)
    (hx : x ∉ bindsOf nm) (aty : CanAt ty x) (rb : Real hb x) (rr : RealH rest x) : RealH (.hcons ty nm hb rest) x := by
  obtain ⟨gn, en, dn⟩ := name_facts nm x hnm hx
  have gt := fun v => (isReads_pass_not_gen x v ty hty).2
  refine ⟨fun _ σ => ?_, fun σ v h => ?_, fun r σ v h => ?_⟩
  · obtain ⟨σ2, h2, _⟩ := en σ
    obtain ⟨σ3, h3⟩ := rb.1 σ2
    exact ⟨_, .hMatch (reads_exec σ ty hty) h2 h3 (by simp)⟩
  · have : Out hb x (σ x) v ∨ Out rest x (σ x) v := by
      simp only [Out, gen, pass] at h ⊢; grind
    rcases this with ho | ho
    · obtain ⟨σ2, h2, e2⟩ := en σ
      obtain ⟨σ3, h3, e3⟩ := rb.2.1 σ2 v (e2 ▸ ho)
      exact ⟨_, .hMatch (reads_exec σ ty hty) h2 h3 (by simp), (dn σ3).trans e3⟩
    · obtain ⟨σ2, h2, e2⟩ := rr.2.1 σ v ho
      exact ⟨σ2, hcons_of_rest hty h2, e2⟩
  · have : OutAt ty r x (σ x) v ∨ OutAt hb r x (σ x) v ∨ OutAt rest r x (σ x) v := by
      simp only [OutAt, genAt, passAt] at h ⊢; grind
    rcases this with ho | ho | ho
    · obtain ⟨σ1, h1, e1⟩ := aty r σ v ho
      exact ⟨σ1, .hS h1, e1⟩
    · obtain ⟨σ2, h2, e2⟩ := en σ
      obtain ⟨σ3, h3, e3⟩ := rb.2.2 r σ2 v (e2 ▸ ho)
      exact ⟨σ3, .hMatchS (reads_exec σ ty hty) h2 h3, e3⟩
    · obtain ⟨σ2, h2, e2⟩ := rr.2.2 r σ v ho
      exact ⟨σ2, hcons_of_rest hty h2, e2⟩

theorem real_ite {c a b : Stmt} {x : Ident} (rc : Real c x) (ra : Real a x) (rb : Real b x) : Real (.ite c a b) x :=
  have r2 := real_seq rc rb
  real_of_cover ite_of_seqT ite_of_seqF ite_of_seqF (by intro u v; simp only [Out, gen, pass]; grind)
    (by intro r u v; simp only [OutAt, genAt, passAt]; grind) (real_seq rc ra) r2 r2

/-- the body may raise at its start (straight into the handlers) and at its end -/
theorem real_try {b hs e : Stmt} {x : Ident} (rb : Real b x) (rh : Real hs x) (re : Real e x) :
    Real (.tryx true true b hs e) x :=
  real_of_cover try_of_else (fun _ h => .tryX1 h) try_of_handler
    (by intro u v; simp only [Out, gen, pass]; grind) (by intro r u v; simp only [OutAt, genAt, passAt]; grind)
    (real_seq rb re) rh (real_seq rb rh)

theorem real_while {c b e : Stmt} {x : Ident} (rc : Real c x) (rb : Real b x) (re : Real e x) :
    Real (.while_ c b e) x := by
  have r1 := real_seq rc re
  have r2 := real_seq rc (real_seq rb r1)
  exact real_of_cover while_of_exit (while_of_step while_of_exit) (while_of_step (while_of_step while_of_exit))
    (by intro u v; simp only [Out, gen, pass]; grind) (by intro r u v; simp only [OutAt, genAt, passAt]; grind)
    r1 r2 (real_seq rc (real_seq rb r2))

theorem real (x : Ident) (s : Stmt) :
    (inFrag true s = true → x ∉ exNames s → Real s x) ∧
    (inFrag.inHs true s = true → x ∉ exNames s → RealH s x) := by
  induction s with
    (refine ⟨fun hf hx => ?_, fun hf hx => ?_⟩ <;>
      simp only [inFrag, inFrag.inHs, Bool.and_eq_true, Bool.false_eq_true, Bool.not_true, Bool.false_or, Bool.false_and]
        at hf <;>
      simp only [exNames, List.mem_append, not_or] at hx)
  | skip => exact real_skip x
  | bind y d => exact real_bind y d x
  | read y r => exact real_read y r x
  | seq s t ihs iht =>
      exact real_seq (ihs.1 hf.1 hx.1) (iht.1 hf.2 hx.2)
  | ite c a b ihc iha ihb =>
      exact real_ite (ihc.1 (isEvents_inFrag true c hf.1.1) hx.1.1) (iha.1 hf.1.2 hx.1.2) (ihb.1 hf.2 hx.2)
  | while_ c b e ihc ihb ihe =>
      exact real_while (ihc.1 (isEvents_inFrag true c hf.1.1) hx.1.1) (ihb.1 hf.1.2 hx.1.2) (ihe.1 hf.2 hx.2)
  | for_ it tg b e ihi iht ihb ihe =>
      have ri := ihi.1 (isEvents_inFrag true it (isReads_isEvents it hf.1.1.1)) hx.1.1.1
      have rt := iht.1 (isEvents_inFrag true tg (isBinds_isEvents tg hf.1.1.2)) hx.1.1.2
      have rb := ihb.1 hf.1.2 hx.1.2
      have re := ihe.1 hf.2 hx.2
      have rd := real_seq ri (real_while (real_skip x) (real_seq rt rb) re)
      exact real_of_embed (fun _ h => .for_ h) (fun u v h => by simpa only [Out, for_gen, for_pass] using h)
        (fun r u v h => by simpa only [OutAt, for_genAt it tg b e hf.1.1.2, for_passAt it tg b e hf.1.1.2] using h) rd
  | tryx r1 r2 b hs e ihb ihh ihe =>
      obtain ⟨⟨⟨⟨⟨rfl, rfl⟩, hb⟩, hc⟩, hh⟩, he⟩ := hf
      have rh := ihh.2 hh hx.1.2
      exact real_try (ihb.1 hb hx.1.1) ⟨rh.1 hc, rh.2⟩ (ihe.1 he hx.2)
  | hnil =>
      refine ⟨by simp [isHcons], ?_, ?_⟩
      · intro σ v h; simp [Out, gen, pass] at h
      · intro r σ v h; simp [OutAt, genAt, passAt] at h
  | hcons ty nm hb rest iht ihn ihb ihr =>
      have rt := iht.1 (isEvents_inFrag true ty (isReads_isEvents ty hf.1.1.1)) hx.1.1.1
      exact realH_hcons hf.1.1.1 hf.1.1.2 hx.1.1.2 rt.2.2 (ihb.1 hf.1.2 hx.1.2) (ihr.2 hf.2 hx.2)
  | fin s f ihs ihf =>
      have r1 := real_seq (ihs.1 hf.1 hx.1) (ihf.1 hf.2 hx.2)
      -- the closed forms of `fin s f` unfold to those of `s; f`
      exact real_of_embed fin_of_seq (fun _ _ h => h) (fun _ _ _ h => h) r1
  | def_ pre f d ps body ihp _ _ =>
      have rp := ihp.1 (isEvents_inFrag true pre (isReads_isEvents pre hf)) hx
      have r1 := real_seq rp (real_bind f d x)
      exact real_of_embed def_of_seq (fun _ _ h => h) (fun _ _ _ h => outAt_seq.2 (.inl h)) r1
  | lam pre ps body ihp _ _ =>
      have rp := ihp.1 (isEvents_inFrag true pre (isReads_isEvents pre hf)) hx
      exact real_of_embed lam_of (fun _ _ h => h) (fun _ _ _ h => h) rp
  | cls pre c d body ihp ihb =>
      have rp := ihp.1 (isEvents_inFrag true pre (isReads_isEvents pre hf.1)) hx.1
      have rb := ihb.1 hf.2 hx.2
      have r1 := real_seq rp (real_bind c d x)
      exact real_of_embed (cls_of_seq rb.1) (fun _ _ h => h) (fun _ _ _ h => outAt_seq.2 (.inl h)) r1

end SuppModel.Den
