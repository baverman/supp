/- Den: the compositional, position-free reading of supp's name analysis
   (/repo/supp/nast.py `extract_visitor`, /repo/supp/scope.py `Flow.names / parent_names / names_at`, `LoopFlow`).

   A program is an event-level statement `Stmt`: which names are bound at which sites and read at which
   read-ids, in which control structure.  `A ks s T` is the name table after `s` when the table before it is `T`
   (supp: `flow.names` of the region control is in after `s`); `at_ ks s r T F` is the table supp consults for
   read `r` (`name.flow.names_at(np(name))`), `F` being the FINAL table of the enclosing scope body (what
   `FuncScope.names` / `SourceScope.names` give to nested scopes).

   A table maps a name to the list of its alternatives: `some d` = the binding at site `d`, `none` = supp's
   `UndefinedName` alternative ("unbound on some path"); a key supp does not have at all is `[none]`.
   Lists are used as sets (statements via `∈`). -/
namespace SuppModel.Den

abbrev Ident := String
abbrev Site := Nat
abbrev RId := Nat

inductive Stmt where
  | skip
  | bind (x : Ident) (d : Site)
  /-- binding of a name the enclosing function declares `global`: `Flow.add_name` sends it to
      `SourceScope._global_names`, the local region is unchanged -/
  | gbind (x : Ident) (d : Site)
  | read (x : Ident) (r : RId)
  | seq (s t : Stmt)
  | ite (c a b : Stmt)
  | while_ (c b e : Stmt)
  | for_ (it tg b e : Stmt)
  /-- try with at least one handler: body, handler chain (`hcons … hnil`), else.  `r1` / `r2`: the body starts /
      ends with a raise point (`mayraise` as first / last statement of the body; supp ignores raise points) -/
  | tryx (r1 r2 : Bool) (b hs e : Stmt)
  | hnil
  | hcons (ty nm hb rest : Stmt)
  /-- `try: s finally: f` (a Python `try/except/else/finally` is `fin (tryx b hs e) f`) -/
  | fin (s f : Stmt)
  /-- comprehension: first iterable (evaluated outside), generator chain -/
  | comp (it g : Stmt)
  /-- one `for tg in … if ifs` level of a comprehension; `inner` is `seq it' (cfor …)` or the element -/
  | cfor (tg ifs inner : Stmt)
  | def_ (pre : Stmt) (f : Ident) (d : Site) (params body : Stmt)
  | lam (pre params body : Stmt)
  | cls (pre : Stmt) (c : Ident) (d : Site) (body : Stmt)
  | mayraise (k : Nat)
  | brk | cont | ret | raise_
  deriving Repr, Inhabited

abbrev Alts := List (Option Site)

/-- a name table.  (A structure around the lookup function rather than a bare function: compiled code then builds
    every table once instead of re-running the analysis at every lookup.) -/
structure Tbl where
  get : Ident → Alts

def Tbl.empty : Tbl := ⟨fun _ => [none]⟩
def Tbl.upd (T : Tbl) (x : Ident) (d : Site) : Tbl := ⟨fun y => if y = x then [some d] else T.get y⟩
/-- the table with no alternative at all (neutral element of `join`; an empty list of predecessor regions) -/
def Tbl.bot : Tbl := ⟨fun _ => []⟩

def Alts.union (a b : Alts) : Alts := a ++ b.filter (fun v => !a.contains v)

/-- union of the alternatives of two predecessor regions (`parent_names` builds a set per name).  The rows of the
    names `ks` are computed once (`ks` = the identifiers the program reads: a pure evaluation-strategy parameter,
    the result is the same table for every `ks`, see `get_join`) -/
def Tbl.join (ks : List Ident) (T U : Tbl) : Tbl :=
  let cache := ks.map fun k => (k, Alts.union (T.get k) (U.get k))
  ⟨fun x => match cache.lookup x with
    | some v => v
    | none => Alts.union (T.get x) (U.get x)⟩

/-- table after `s` (jumps and raise points are ignored by supp: control falls through) -/
def A (ks : List Ident) : Stmt → Tbl → Tbl
  | .skip, T => T
  | .bind x d, T => T.upd x d
  | .gbind _ _, T => T
  | .read _ _, T => T
  | .seq s t, T => A ks t (A ks s T)
  | .ite c a b, T => let T1 := A ks c T; (A ks a T1).join ks (A ks b T1)
  -- visit_While: test region [cur, LoopFlow(body)], body [test], else [test], join [else]
  | .while_ c b e, T =>
      let L := A ks b (A ks c T)          -- LoopFlow.names: the body's table with the back edge cut
      let T2 := A ks c (T.join ks L)      -- after the test
      A ks e T2
  -- visit_For: iter in cur; 'for' region [cur, LoopFlow(body)] holds the targets; else [cur, body]; join [else]
  | .for_ it tg b e, T =>
      let T1 := A ks it T
      let L := A ks b (A ks tg T1)
      let head := A ks tg (T1.join ks L)
      A ks e (T1.join ks (A ks b head))
  -- visit_Try: body [cur]; every handler [cur, body]; else [body]; join [else] + handlers
  | .tryx _ _ b hs e, T => let B := A ks b T; (A ks e B).join ks (A ks hs (T.join ks B))
  | .hnil, _ => Tbl.bot
  | .hcons ty nm hb rest, T => (A ks hb (A ks nm (A ks ty T))).join ks (A ks rest T)
  | .fin s f, T => A ks f (A ks s T)
  -- visit_ListComp: 'comp' regions chained, comp-join [cur, last]
  | .comp it g, T => let T1 := A ks it T; T1.join ks (A ks g T1)
  | .cfor tg ifs inner, T => A ks inner (A ks ifs (A ks tg T))
  | .def_ pre f d _ _, T => (A ks pre T).upd f d
  | .lam pre _ _, T => A ks pre T
  | .cls pre c d _, T => (A ks pre T).upd c d
  | .mayraise _, T => T
  | .brk, T => T
  | .cont, T => T
  | .ret, T => T
  | .raise_, T => T

/-- names bound by the statements of this scope body itself (nested scope bodies excluded, comprehension variables
    included) -/
def bindsOf : Stmt → List Ident
  | .skip => [] | .bind x _ => [x] | .gbind _ _ => [] | .read _ _ => []
  | .seq s t => bindsOf s ++ bindsOf t
  | .ite c a b => bindsOf c ++ bindsOf a ++ bindsOf b
  | .while_ c b e => bindsOf c ++ bindsOf b ++ bindsOf e
  | .for_ it tg b e => bindsOf it ++ bindsOf tg ++ bindsOf b ++ bindsOf e
  | .tryx _ _ b hs e => bindsOf b ++ bindsOf hs ++ bindsOf e
  | .hnil => []
  | .hcons ty nm hb rest => bindsOf ty ++ bindsOf nm ++ bindsOf hb ++ bindsOf rest
  | .fin s f => bindsOf s ++ bindsOf f
  | .comp it g => bindsOf it ++ bindsOf g
  | .cfor tg ifs inner => bindsOf tg ++ bindsOf ifs ++ bindsOf inner
  | .def_ pre f _ _ _ => bindsOf pre ++ [f]
  | .lam pre _ _ => bindsOf pre
  | .cls pre c _ _ => bindsOf pre ++ [c]
  | .mayraise _ => [] | .brk => [] | .cont => [] | .ret => [] | .raise_ => []

/-- `scope.locals`: every `add_name` in a region of the scope whose name is not declared global — nested scope bodies
    excluded; comprehension variables are NOT locals of the enclosing scope (they are inserted into the 'comp'
    region without `add_name`) -/
def localsOf : Stmt → List Ident
  | .skip => [] | .bind x _ => [x] | .gbind _ _ => [] | .read _ _ => []
  | .seq s t => localsOf s ++ localsOf t
  | .ite c a b => localsOf c ++ localsOf a ++ localsOf b
  | .while_ c b e => localsOf c ++ localsOf b ++ localsOf e
  | .for_ it tg b e => localsOf it ++ localsOf tg ++ localsOf b ++ localsOf e
  | .tryx _ _ b hs e => localsOf b ++ localsOf hs ++ localsOf e
  | .hnil => []
  | .hcons ty nm hb rest => localsOf ty ++ localsOf nm ++ localsOf hb ++ localsOf rest
  | .fin s f => localsOf s ++ localsOf f
  | .comp it g => localsOf it ++ localsOf g
  | .cfor _ ifs inner => localsOf ifs ++ localsOf inner
  | .def_ pre f _ _ _ => localsOf pre ++ [f]
  | .lam pre _ _ => localsOf pre
  | .cls pre c _ _ => localsOf pre ++ [c]
  | .mayraise _ => [] | .brk => [] | .cont => [] | .ret => [] | .raise_ => []

/-- entry table of a function body: parameters, then the enclosing scope's FINAL table minus the function's locals
    (`Flow.parent_names`, branch without predecessor regions, FuncScope case) -/
def funcEntry (ks : List Ident) (F : Tbl) (params body : Stmt) : Tbl :=
  let loc := localsOf params ++ localsOf body
  A ks params ⟨fun x => if x ∈ loc then [none] else F.get x⟩

/-- table at read `r` (`[]` everywhere when `r` does not occur in `s`) -/
def at_ (ks : List Ident) : Stmt → RId → Tbl → Tbl → Tbl
  | .skip, _, _, _ => Tbl.bot
  | .bind _ _, _, _, _ => Tbl.bot
  | .gbind _ _, _, _, _ => Tbl.bot
  | .read _ r', r, T, _ => if r = r' then T else Tbl.bot
  | .seq s t, r, T, F => (at_ ks s r T F).join ks (at_ ks t r (A ks s T) F)
  | .ite c a b, r, T, F =>
      let T1 := A ks c T
      ((at_ ks c r T F).join ks (at_ ks a r T1 F)).join ks (at_ ks b r T1 F)
  | .while_ c b e, r, T, F =>
      let L := A ks b (A ks c T)
      let head := T.join ks L
      let T2 := A ks c head
      ((at_ ks c r head F).join ks (at_ ks b r T2 F)).join ks (at_ ks e r T2 F)
  | .for_ it tg b e, r, T, F =>
      let T1 := A ks it T
      let L := A ks b (A ks tg T1)
      let head := A ks tg (T1.join ks L)
      ((at_ ks it r T F).join ks (at_ ks b r head F)).join ks (at_ ks e r (T1.join ks (A ks b head)) F)
  | .tryx _ _ b hs e, r, T, F =>
      let B := A ks b T
      ((at_ ks b r T F).join ks (at_ ks hs r (T.join ks B) F)).join ks (at_ ks e r B F)
  | .hnil, _, _, _ => Tbl.bot
  | .hcons ty nm hb rest, r, T, F =>
      ((at_ ks ty r T F).join ks (at_ ks hb r (A ks nm (A ks ty T)) F)).join ks (at_ ks rest r T F)
  | .fin s f, r, T, F => (at_ ks s r T F).join ks (at_ ks f r (A ks s T) F)
  | .comp it g, r, T, F => (at_ ks it r T F).join ks (at_ ks g r (A ks it T) F)
  | .cfor tg ifs inner, r, T, F =>
      let T1 := A ks tg T
      (at_ ks ifs r T1 F).join ks (at_ ks inner r (A ks ifs T1) F)
  | .def_ pre _ _ params body, r, T, F =>
      let E := funcEntry ks F params body
      (at_ ks pre r T F).join ks (at_ ks body r E (A ks body E))
  | .lam pre params body, r, T, F =>
      let E := funcEntry ks F params body
      (at_ ks pre r T F).join ks (at_ ks body r E (A ks body E))
  -- class body: ALL of the enclosing final table; scopes nested in it look through to the class's parent
  | .cls pre _ _ body, r, T, F => (at_ ks pre r T F).join ks (at_ ks body r F F)
  | .mayraise _, _, _, _ => Tbl.bot
  | .brk, _, _, _ => Tbl.bot
  | .cont, _, _, _ => Tbl.bot
  | .ret, _, _, _ => Tbl.bot
  | .raise_, _, _, _ => Tbl.bot

/-- `SourceScope._global_names`: bindings of names declared global, in visit order (the last one wins) -/
def globalsOf : Stmt → List (Ident × Site)
  | .skip => [] | .bind _ _ => [] | .gbind x d => [(x, d)] | .read _ _ => []
  | .seq s t => globalsOf s ++ globalsOf t
  | .ite c a b => globalsOf c ++ globalsOf a ++ globalsOf b
  | .while_ c b e => globalsOf c ++ globalsOf b ++ globalsOf e
  | .for_ it tg b e => globalsOf it ++ globalsOf tg ++ globalsOf b ++ globalsOf e
  | .tryx _ _ b hs e => globalsOf b ++ globalsOf hs ++ globalsOf e
  | .hnil => []
  | .hcons ty nm hb rest => globalsOf ty ++ globalsOf nm ++ globalsOf hb ++ globalsOf rest
  | .fin s f => globalsOf s ++ globalsOf f
  | .comp it g => globalsOf it ++ globalsOf g
  | .cfor tg ifs inner => globalsOf tg ++ globalsOf ifs ++ globalsOf inner
  | .def_ pre _ _ params body => globalsOf pre ++ globalsOf params ++ globalsOf body
  | .lam pre params body => globalsOf pre ++ globalsOf params ++ globalsOf body
  | .cls pre _ _ body => globalsOf pre ++ globalsOf body
  | .mayraise _ => [] | .brk => [] | .cont => [] | .ret => [] | .raise_ => []

/-- entry table of the module region: `MergedDict(_global_names, builtins)` (builtins are not program names) -/
def moduleEntry (prog : Stmt) : Tbl :=
  (globalsOf prog).foldl (fun T (p : Ident × Site) => T.upd p.1 p.2) Tbl.empty

/-- all reads (id, name) of a program, nested scopes included -/
def readsOf : Stmt → List (RId × Ident)
  | .skip => [] | .bind _ _ => [] | .gbind _ _ => [] | .read x r => [(r, x)]
  | .seq s t => readsOf s ++ readsOf t
  | .ite c a b => readsOf c ++ readsOf a ++ readsOf b
  | .while_ c b e => readsOf c ++ readsOf b ++ readsOf e
  | .for_ it tg b e => readsOf it ++ readsOf tg ++ readsOf b ++ readsOf e
  | .tryx _ _ b hs e => readsOf b ++ readsOf hs ++ readsOf e
  | .hnil => []
  | .hcons ty nm hb rest => readsOf ty ++ readsOf nm ++ readsOf hb ++ readsOf rest
  | .fin s f => readsOf s ++ readsOf f
  | .comp it g => readsOf it ++ readsOf g
  | .cfor tg ifs inner => readsOf tg ++ readsOf ifs ++ readsOf inner
  | .def_ pre _ _ params body => readsOf pre ++ readsOf params ++ readsOf body
  | .lam pre params body => readsOf pre ++ readsOf params ++ readsOf body
  | .cls pre _ _ body => readsOf pre ++ readsOf body
  | .mayraise _ => [] | .brk => [] | .cont => [] | .ret => [] | .raise_ => []

/-- supp's answer for read `r` of name `x` in the module `prog` -/
def answer (prog : Stmt) (r : RId) (x : Ident) : Alts :=
  let T0 := moduleEntry prog
  let ks := ((readsOf prog).map (·.2)).eraseDups
  (at_ ks prog r T0 (A ks prog T0)).get x

end SuppModel.Den
