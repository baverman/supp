/- Closed forms of supp's tables: per name, `A s T = gen s ∪ (pass s ? T)` and the same at a read (`genAt` / `passAt`). -/
import SuppModel.Den.Sem
namespace SuppModel.Den

theorem lookup_map (ks : List Ident) (f : Ident → Alts) (x : Ident) (v : Alts)
    (h : (ks.map fun k => (k, f k)).lookup x = some v) : v = f x := by
  induction ks with
  | nil => cases h
  | cons k ks ih =>
    rw [List.map_cons, List.lookup_cons] at h
    split at h
    · next e => exact eq_of_beq e ▸ Option.some.inj h.symm
    · exact ih h

theorem mem_union (a b : Alts) (v : Option Site) : v ∈ Alts.union a b ↔ v ∈ a ∨ v ∈ b := by
  unfold Alts.union
  simp only [List.mem_append, List.mem_filter]
  by_cases h : v ∈ a <;> simp [h]

theorem get_join (ks : List Ident) (T U : Tbl) (x : Ident) :
    (Tbl.join ks T U).get x = Alts.union (T.get x) (U.get x) := by
  simp only [Tbl.join]
  split
  · exact lookup_map _ _ _ _ ‹_›
  · rfl

theorem mem_join (ks : List Ident) (T U : Tbl) (x : Ident) (v : Option Site) :
    v ∈ (Tbl.join ks T U).get x ↔ v ∈ T.get x ∨ v ∈ U.get x := by
  rw [get_join, mem_union]

theorem mem_upd (T : Tbl) (x y : Ident) (d : Site) (v : Option Site) :
    v ∈ (T.upd x d).get y ↔ (if y = x then v = some d else v ∈ T.get y) := by
  unfold Tbl.upd
  by_cases h : y = x <;> simp [h]

/-- name `y` is not rebound on some path through `s` -/
def pass : Stmt → Ident → Prop
  | .skip, _ => True | .gbind _ _, _ => True | .read _ _, _ => True
  | .bind x _, y => y ≠ x
  | .seq s t, y => pass s y ∧ pass t y
  | .ite c a b, y => pass c y ∧ (pass a y ∨ pass b y)
  | .while_ c _ e, y => pass e y ∧ pass c y
  | .for_ it _ _ e, y => pass e y ∧ pass it y
  | .tryx _ _ b hs e, y => (pass e y ∧ pass b y) ∨ pass hs y
  | .hnil, _ => False
  | .hcons ty nm hb rest, y => (pass ty y ∧ pass nm y ∧ pass hb y) ∨ pass rest y
  | .fin s f, y => pass s y ∧ pass f y
  | .comp it _, y => pass it y
  | .cfor tg ifs inner, y => pass tg y ∧ pass ifs y ∧ pass inner y
  | .def_ pre f _ _ _, y => pass pre y ∧ y ≠ f
  | .lam pre _ _, y => pass pre y
  | .cls pre c _ _, y => pass pre y ∧ y ≠ c
  | .mayraise _, _ => True | .brk, _ => True | .cont, _ => True | .ret, _ => True | .raise_, _ => True

/-- alternative `a` for name `y` is produced by `s` itself -/
def gen : Stmt → Ident → Option Site → Prop
  | .skip, _, _ => False | .gbind _ _, _, _ => False | .read _ _, _, _ => False
  | .bind x d, y, a => y = x ∧ a = some d
  | .seq s t, y, a => gen t y a ∨ (pass t y ∧ gen s y a)
  | .ite c a b, y, v => gen a y v ∨ gen b y v ∨ ((pass a y ∨ pass b y) ∧ gen c y v)
  | .while_ c b e, y, a => gen e y a ∨ (pass e y ∧ (gen c y a ∨ (pass c y ∧ (gen b y a ∨ (pass b y ∧ gen c y a)))))
  | .for_ it tg b e, y, a => gen e y a ∨ (pass e y ∧ (gen b y a ∨ (pass b y ∧ gen tg y a) ∨ gen it y a))
  | .tryx _ _ b hs e, y, a => gen e y a ∨ (pass e y ∧ gen b y a) ∨ gen hs y a ∨ (pass hs y ∧ gen b y a)
  | .hnil, _, _ => False
  | .hcons ty nm hb rest, y, a =>
      gen hb y a ∨ (pass hb y ∧ (gen nm y a ∨ (pass nm y ∧ gen ty y a))) ∨ gen rest y a
  | .fin s f, y, a => gen f y a ∨ (pass f y ∧ gen s y a)
  | .comp it g, y, a => gen it y a ∨ gen g y a
  | .cfor tg ifs inner, y, a => gen inner y a ∨ (pass inner y ∧ (gen ifs y a ∨ (pass ifs y ∧ gen tg y a)))
  | .def_ pre f d _ _, y, a => (y = f ∧ a = some d) ∨ (y ≠ f ∧ gen pre y a)
  | .lam pre _ _, y, a => gen pre y a
  | .cls pre c d _, y, a => (y = c ∧ a = some d) ∨ (y ≠ c ∧ gen pre y a)
  | .mayraise _, _, _ => False | .brk, _, _ => False | .cont, _, _ => False | .ret, _, _ => False
  | .raise_, _, _ => False

theorem A_normal (ks : List Ident) (s : Stmt) (T : Tbl) (y : Ident) (v : Option Site) :
    v ∈ (A ks s T).get y ↔ (gen s y v ∨ (pass s y ∧ v ∈ T.get y)) := by
  induction s generalizing T <;>
    simp only [A, mem_join, mem_upd, gen, pass, Tbl.bot, List.not_mem_nil, *] <;>
    -- a propositional tautology in each case; without `ematch := 0` the induction hypotheses are instantiated over and over
    grind (ematch := 0)

/-- read ids inside nested scope bodies (their tables come from the enclosing FINAL table, not from `T`) -/
def nestedReads : Stmt → List RId
  | .seq s t => nestedReads s ++ nestedReads t
  | .ite c a b => nestedReads c ++ nestedReads a ++ nestedReads b
  | .while_ c b e => nestedReads c ++ nestedReads b ++ nestedReads e
  | .for_ it tg b e => nestedReads it ++ nestedReads tg ++ nestedReads b ++ nestedReads e
  | .tryx _ _ b hs e => nestedReads b ++ nestedReads hs ++ nestedReads e
  | .hcons ty nm hb rest => nestedReads ty ++ nestedReads nm ++ nestedReads hb ++ nestedReads rest
  | .fin s f => nestedReads s ++ nestedReads f
  | .comp it g => nestedReads it ++ nestedReads g
  | .cfor tg ifs inner => nestedReads tg ++ nestedReads ifs ++ nestedReads inner
  | .def_ pre _ _ _ body => nestedReads pre ++ (readsOf body).map (·.1)
  | .lam pre _ body => nestedReads pre ++ (readsOf body).map (·.1)
  | .cls pre _ _ body => nestedReads pre ++ (readsOf body).map (·.1)
  | _ => []

/-- read `r` belongs to this scope body and name `y` is not rebound on some path from the start of `s` to it -/
def passAt : Stmt → RId → Ident → Prop
  | .read _ r', r, _ => r = r'
  | .seq s t, r, y => passAt s r y ∨ (passAt t r y ∧ pass s y)
  | .ite c a b, r, y => passAt c r y ∨ ((passAt a r y ∨ passAt b r y) ∧ pass c y)
  | .while_ c b e, r, y => passAt c r y ∨ ((passAt b r y ∨ passAt e r y) ∧ pass c y)
  | .for_ it tg b e, r, y => passAt it r y ∨ (passAt b r y ∧ pass tg y ∧ pass it y) ∨ (passAt e r y ∧ pass it y)
  | .tryx _ _ b hs e, r, y => passAt b r y ∨ passAt hs r y ∨ (passAt e r y ∧ pass b y)
  | .hcons ty nm hb rest, r, y => passAt ty r y ∨ (passAt hb r y ∧ pass nm y ∧ pass ty y) ∨ passAt rest r y
  | .fin s f, r, y => passAt s r y ∨ (passAt f r y ∧ pass s y)
  | .comp it g, r, y => passAt it r y ∨ (passAt g r y ∧ pass it y)
  | .cfor tg ifs inner, r, y => (passAt ifs r y ∧ pass tg y) ∨ (passAt inner r y ∧ pass ifs y ∧ pass tg y)
  | .def_ pre _ _ _ _, r, y => passAt pre r y
  | .lam pre _ _, r, y => passAt pre r y
  | .cls pre _ _ _, r, y => passAt pre r y
  | _, _, _ => False

/-- alternative `v` for `y` at read `r` is produced by the part of `s` supp puts before `r` -/
def genAt : Stmt → RId → Ident → Option Site → Prop
  | .seq s t, r, y, v => genAt s r y v ∨ genAt t r y v ∨ (passAt t r y ∧ gen s y v)
  | .ite c a b, r, y, v => genAt c r y v ∨ genAt a r y v ∨ genAt b r y v ∨ ((passAt a r y ∨ passAt b r y) ∧ gen c y v)
  | .while_ c b e, r, y, v =>
      let H := gen b y v ∨ (pass b y ∧ gen c y v)      -- what the back edge adds to the loop head
      genAt c r y v ∨ (passAt c r y ∧ H) ∨ genAt b r y v ∨ genAt e r y v ∨
        ((passAt b r y ∨ passAt e r y) ∧ (gen c y v ∨ (pass c y ∧ H)))
  | .for_ it tg b e, r, y, v =>
      let Hh := gen tg y v ∨ (pass tg y ∧ gen b y v)    -- first body statement, beyond the iterable's table
      let He := gen b y v ∨ (pass b y ∧ Hh)             -- else branch
      genAt it r y v ∨ genAt b r y v ∨ (passAt b r y ∧ (Hh ∨ (pass tg y ∧ gen it y v))) ∨ genAt e r y v ∨
        (passAt e r y ∧ (He ∨ gen it y v))
  | .tryx _ _ b hs e, r, y, v =>
      genAt b r y v ∨ genAt hs r y v ∨ (passAt hs r y ∧ gen b y v) ∨ genAt e r y v ∨ (passAt e r y ∧ gen b y v)
  | .hcons ty nm hb rest, r, y, v =>
      genAt ty r y v ∨ genAt hb r y v ∨ (passAt hb r y ∧ (gen nm y v ∨ (pass nm y ∧ gen ty y v))) ∨ genAt rest r y v
  | .fin s f, r, y, v => genAt s r y v ∨ genAt f r y v ∨ (passAt f r y ∧ gen s y v)
  | .comp it g, r, y, v => genAt it r y v ∨ genAt g r y v ∨ (passAt g r y ∧ gen it y v)
  | .cfor tg ifs inner, r, y, v =>
      genAt ifs r y v ∨ (passAt ifs r y ∧ gen tg y v) ∨ genAt inner r y v ∨
        (passAt inner r y ∧ (gen ifs y v ∨ (pass ifs y ∧ gen tg y v)))
  | .def_ pre _ _ _ _, r, y, v => genAt pre r y v
  | .lam pre _ _, r, y, v => genAt pre r y v
  | .cls pre _ _ _, r, y, v => genAt pre r y v
  | _, _, _, _ => False

theorem union_nil : Alts.union [] [] = [] := rfl

theorem at_none (ks : List Ident) (s : Stmt) (r : RId) (T F : Tbl) (y : Ident)
    (h : r ∉ (readsOf s).map (·.1)) : (at_ ks s r T F).get y = [] := by
  induction s generalizing T F <;>
    simp only [readsOf, List.map_append, List.mem_append, not_or, List.map_cons, List.map_nil,
      List.mem_singleton] at h <;>
    simp [at_, get_join, Tbl.bot, union_nil, *]

theorem at_normal (ks : List Ident) (s : Stmt) (r : RId) (T F : Tbl) (y : Ident) (v : Option Site)
    (h : r ∉ nestedReads s) :
    v ∈ (at_ ks s r T F).get y ↔ (genAt s r y v ∨ (passAt s r y ∧ v ∈ T.get y)) := by
  induction s generalizing T with
  | read x r' => by_cases e : r = r' <;> simp [at_, genAt, passAt, e, Tbl.bot]
  | _ =>
    simp only [nestedReads, List.mem_append, not_or] at h
    simp only [at_, mem_join, genAt, passAt, A_normal, Tbl.bot, List.not_mem_nil, not_false_eq_true, at_none, *]
    grind (ematch := 0)

/-- the closed forms as relations on the value of `x`: `v` after `s` (resp. at read `r`) when it was `u` before -/
def Out (s : Stmt) (x : Ident) (u v : Option Site) : Prop := gen s x v ∨ (pass s x ∧ u = v)
def OutAt (s : Stmt) (r : RId) (x : Ident) (u v : Option Site) : Prop := genAt s r x v ∨ (passAt s r x ∧ u = v)

end SuppModel.Den
