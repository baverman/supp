/- C02: every execution of the fragment is covered by the closed forms of supp's tables (induction on the execution). -/
import SuppModel.Den.Fragments
namespace SuppModel.Den

theorem chain_events (x : Ident) (he : isEvents s = true) (h : Chain s σ o σ') :
    (o = .normal ∧ Out s x (σ x) (σ' x)) ∨ ∃ r, o = .stop r ∧ OutAt s r x (σ x) (σ' x) := by
  induction h with
  | @bind y d σ => by_cases e : x = y <;> simp [Out, State.upd, gen, pass, e]
  | seqN _ _ ih1 ih2 =>
      simp only [isEvents, Bool.and_eq_true] at he
      have g1 := ih1 he.1; have g2 := ih2 he.2
      simp only [Out, OutAt, gen, pass, genAt, passAt, reduceCtorEq, false_and, exists_false, or_false, true_and] at g1 g2 ⊢
      grind
  | seqS _ ih1 =>
      simp only [isEvents, Bool.and_eq_true] at he
      have g1 := ih1 he.1
      simp only [Out, OutAt, gen, pass, genAt, passAt, reduceCtorEq, false_and, false_or] at g1 ⊢
      grind
  | skip | read | readStop => simp [Out, OutAt, gen, pass, genAt, passAt]
  | _ => simp [isEvents] at he

theorem chain_events_normal (x : Ident) (he : isEvents s = true) (h : Chain s σ .normal σ') : Out s x (σ x) (σ' x) := by
  simpa using chain_events x he h

theorem chain_events_stop (x : Ident) (he : isEvents s = true) (h : Chain s σ (.stop r) σ') :
    OutAt s r x (σ x) (σ' x) := by
  simpa using chain_events x he h

/-- a read that can see the entry value of a comprehension variable lies before the level that binds it -/
theorem late_of_pass (x : Ident) (r : RId) (s : Stmt) (hf : chainFrag s = true) (hp : passAt s r x)
    (hx : x ∈ compTargets s) : lateChain s r x = true := by
  induction s with
  | seq s t ihs iht =>
      simp only [chainFrag, Bool.and_eq_true] at hf
      simp only [compTargets] at hx
      simp only [passAt] at hp
      simp only [lateChain, Bool.or_eq_true, Bool.and_eq_true, decide_eq_true_eq]
      rcases hp with hp | ⟨hp, _⟩
      · exact .inl ⟨isReads_passAt_mem r x s hf.1 hp, hx⟩
      · exact .inr (iht hf.2 hp hx)
  | cfor tg ifs inner _ _ ihn =>
      simp only [chainFrag, Bool.and_eq_true] at hf
      simp only [compTargets, List.mem_append] at hx
      simp only [passAt] at hp
      simp only [lateChain, Bool.or_eq_true, Bool.and_eq_true, decide_eq_true_eq]
      have ht : pass tg x := by rcases hp with ⟨_, ht⟩ | ⟨_, _, ht⟩ <;> exact ht
      have hx := hx.resolve_left ((isBinds_mem x tg hf.1.1).2 ht)
      rcases hp with ⟨hp, _⟩ | ⟨hp, _⟩
      · exact .inl ⟨isReads_passAt_mem r x ifs hf.1.2 hp, hx⟩
      · exact .inr (ihn hf.2 hp hx)
  | _ => simp [compTargets] at hx

/-- inside a comprehension: names it does not bind keep their value; at a read, `x` holds what supp's straight-line
    reading of the chain says, unless the read is a late one -/
theorem chain_ok (x : Ident) (h : Chain s σa o σb) (hf : chainFrag s = true) :
    (o = .normal ∧ (x ∉ compTargets s → σb x = σa x)) ∨
    ∃ r, o = .stop r ∧ (lateChain s r x = true ∨ OutAt s r x (σa x) (σb x)) := by
  induction h with
    simp only [chainFrag, Bool.and_eq_true, Bool.false_eq_true] at hf
  | skip | read | done => exact .inl ⟨rfl, fun _ => rfl⟩
  | readStop => exact .inr ⟨_, rfl, .inr (.inr ⟨by simp [passAt], rfl⟩)⟩
  | @seqN s σ σ1 t o σ2 h1 _ _ ih2 =>
      have e1 := chain_events_normal x (isReads_isEvents s hf.1) h1
      have rp := isReads_pass_not_gen x (σ1 x) s hf.1
      have g2 := ih2 hf.2
      simp only [Out, OutAt, compTargets, genAt, passAt, lateChain, Bool.or_eq_true] at e1 g2 ⊢
      grind
  | @seqS s σ r σ1 t h1 _ =>
      have e1 := chain_events_stop x (isReads_isEvents s hf.1) h1
      simp only [OutAt, genAt, passAt, reduceCtorEq, false_and, false_or, Outcome.stop.injEq, exists_eq_left'] at e1 ⊢
      grind
  | @iterSkip tg σ σ1 ifs σ2 inner o σ3 h1 h2 _ _ _ ih3 =>
      have g3 := ih3 (by simp only [chainFrag, hf, Bool.and_self])
      have e1 := chain_events_normal x (isBinds_isEvents tg hf.1.1) h1
      have e2 := chain_events_normal x (isReads_isEvents ifs hf.1.2) h2
      have rp := isReads_pass_not_gen x (σ2 x) ifs hf.1.2
      have bm := isBinds_mem x tg hf.1.1
      simp only [Out, OutAt, compTargets, List.mem_append, not_or, genAt, passAt, lateChain, Bool.or_eq_true] at e1 e2 g3 ⊢
      grind
  | @iter tg σ σ1 ifs σ2 inner σ3 o σ4 h1 h2 _ _ _ _ ihn ih4 =>
      have g4 := ih4 (by simp only [chainFrag, hf, Bool.and_self])
      have gn := ihn hf.2
      have e1 := chain_events_normal x (isBinds_isEvents tg hf.1.1) h1
      have e2 := chain_events_normal x (isReads_isEvents ifs hf.1.2) h2
      have rp := isReads_pass_not_gen x (σ2 x) ifs hf.1.2
      have bm := isBinds_mem x tg hf.1.1
      have lp := fun r => late_of_pass x r inner hf.2
      have ri := fun r => isReads_passAt_mem r x ifs hf.1.2
      simp only [Out, OutAt, compTargets, List.mem_append, not_or, genAt, passAt, lateChain,
        Bool.or_eq_true, Bool.and_eq_true, decide_eq_true_eq, reduceCtorEq, false_and, exists_false, or_false, true_and]
        at e1 e2 gn g4 ⊢
      grind
  | @iterS1 tg σ σ1 ifs r σ2 inner h1 h2 _ _ =>
      have e1 := chain_events_normal x (isBinds_isEvents tg hf.1.1) h1
      have e2 := chain_events_stop x (isReads_isEvents ifs hf.1.2) h2
      have rp := isReads_not_genAt r x (σ2 x) ifs hf.1.2
      simp only [Out, OutAt, genAt, passAt, reduceCtorEq, false_and, false_or, Outcome.stop.injEq, exists_eq_left'] at e1 e2 ⊢
      grind
  | @iterS2 tg σ σ1 ifs σ2 inner r σ3 h1 h2 _ _ _ ihn =>
      have gn := ihn hf.2
      have e1 := chain_events_normal x (isBinds_isEvents tg hf.1.1) h1
      have e2 := chain_events_normal x (isReads_isEvents ifs hf.1.2) h2
      have rp := isReads_pass_not_gen x (σ2 x) ifs hf.1.2
      simp only [Out, OutAt, genAt, passAt, lateChain, Bool.or_eq_true, reduceCtorEq, false_and, false_or,
        Outcome.stop.injEq, exists_eq_left'] at e1 e2 gn ⊢
      grind

theorem delEx_cases (nm : Stmt) (h : isName nm = true) (σ : State) (x : Ident) :
    delEx nm σ x = σ x ∨ (delEx nm σ x = none ∧ x ∈ bindsOf nm) := by
  cases nm <;> simp [isName] at h
  · exact .inl rfl
  · rename_i y d; by_cases e : x = y <;> simp [delEx, exName, State.del, bindsOf, e]

theorem exec_outcome (st : Bool) (h : Exec s σ o σ') (hf : inFrag st s = true ∨ inFrag.inHs st s = true) :
    o = .normal ∨ ∃ r, o = .stop r := by
  induction h with
    simp only [inFrag, inFrag.inHs, isEvents, Bool.and_eq_true, Bool.false_eq_true, or_false, false_or, true_and,
      reduceCtorEq, exists_false, Outcome.stop.injEq, exists_eq', or_true, imp_true_iff] at *
  -- a rule either passes on the outcome of a part that lies in the fragment, or needs a jump / exception from such a part
  | _ => simp_all [isEvents_inFrag, isReads_isEvents, isBinds_isEvents]

/-- After a normal execution of the fragment `x` holds what the closed form says — except that an except-clause name
    may have been unbound again on leaving its handler, which supp does not model. -/
theorem exec_normal_of_eq (st : Bool) (x : Ident) (h : Exec s σ o σ') :
    o = .normal → (inFrag st s = true ∨ inFrag.inHs st s = true) →
      (σ' x = none ∧ x ∈ exNames s) ∨ Out s x (σ x) (σ' x) := by
  induction h with
    (intro ho hf <;> cases ho <;>
      simp only [inFrag, inFrag.inHs, Bool.and_eq_true, Bool.false_eq_true, or_false, false_or] at hf)
  | @bind y d σ => by_cases e : x = y <;> simp [Out, State.upd, gen, pass, e]
  | @hMatch ty σ nm σ2 hb o σ3 rest _ _ _ _ _ ihnm ihhb =>
      have en := isName_isEvents nm hf.1.1.2
      have gn := ihnm rfl (.inl (isEvents_inFrag st nm en)); have gb := ihhb rfl (.inl hf.1.2)
      have pty := isReads_pass_not_gen x (σ3 x) ty hf.1.1.1
      have hd := delEx_cases nm hf.1.1.2 σ3 x
      simp only [isEvents_exNames nm en, Out, gen, pass, exNames, List.mem_append, List.not_mem_nil] at gn gb ⊢
      grind
  | @def_ pre σ σ1 f d ps body _ ihp =>
      have ep := isReads_isEvents pre hf
      have gp := ihp rfl (.inl (isEvents_inFrag st pre ep))
      by_cases e : x = f <;> simp_all [Out, gen, pass, exNames, isEvents_exNames pre ep, State.upd]
  | @clsN pre σ σ1 body σ2 c d _ _ ihp _ =>
      have ep := isReads_isEvents pre hf.1
      have gp := ihp rfl (.inl (isEvents_inFrag st pre ep))
      by_cases e : x = c <;> simp_all [Out, gen, pass, exNames, isEvents_exNames pre ep, State.upd]
  | @compN it σ σ1 g σ2 _ hg ihit =>
      have ei := isReads_isEvents it hf.1.2
      have git := ihit rfl (.inl (isEvents_inFrag st it ei))
      have hres : State.restore (compTargets g) σ1 σ2 x = σ1 x := by
        have cg := chain_ok x hg hf.2
        by_cases e : x ∈ compTargets g <;> simp_all [State.restore, State.hide]
      simp only [hres, isEvents_exNames it ei, Out, gen, pass, exNames, List.not_mem_nil, and_false, false_or] at git ⊢
      grind
  | @for_ it tg b e σ o σ' _ ih =>
      have g := ih rfl (.inl (by
        simp [inFrag, isEvents, hf, isEvents_inFrag st it (isReads_isEvents it hf.1.1.1),
          isEvents_inFrag st tg (isBinds_isEvents tg hf.1.1.2)]))
      simp only [Out, for_gen, for_pass, exNames, List.mem_append, List.not_mem_nil, false_or] at g ⊢
      grind
  | @whileStep c σ σ1 b ob σ2 e o σ3 _ hb hob _ ihc ihb ihw =>
      have ob_normal : ob = .normal := by
        rcases exec_outcome st hb (.inl hf.1.2) with h | ⟨r, h⟩ <;> simp_all
      have gc := ihc rfl (.inl (isEvents_inFrag st c hf.1.1)); have gb := ihb ob_normal (.inl hf.1.2)
      have gw := ihw rfl (.inl (by simp only [inFrag, hf, Bool.and_self]))
      simp only [isEvents_exNames c hf.1.1, Out, gen, pass, exNames, List.mem_append, List.not_mem_nil, and_false,
        false_or] at gc gb gw ⊢
      grind
  | whileBrk _ hb => simpa using exec_outcome st hb (.inl hf.1.2)
  | tryX hb => simpa using exec_outcome st hb (.inl hf.1.1.1.2)
  -- every other rule: the closed form of the compound statement, unfolded one level, is a propositional combination
  -- of what the induction hypotheses say about the parts
  | _ =>
    simp only [Out, gen, pass, exNames, List.mem_append, List.not_mem_nil] <;>
    grind [Out, isEvents_inFrag, isReads_isEvents]

theorem exec_normal (st : Bool) (x : Ident) (h : Exec s σ .normal σ')
    (hf : inFrag st s = true ∨ inFrag.inHs st s = true) :
    (σ' x = none ∧ x ∈ exNames s) ∨ gen s x (σ' x) ∨ (pass s x ∧ σ x = σ' x) :=
  exec_normal_of_eq st x h rfl hf

theorem exec_stop (st : Bool) (x : Ident) (h : Exec s σ o σ') :
    ∀ r, o = .stop r → (inFrag st s = true ∨ inFrag.inHs st s = true) →
      (σ' x = none ∧ x ∈ exNames s) ∨ lateRead s r x = true ∨ OutAt s r x (σ x) (σ' x) := by
  induction h with
    (intro r ho hf <;> cases ho <;>
      simp only [inFrag, inFrag.inHs, Bool.and_eq_true, Bool.false_eq_true, or_false, false_or] at hf)
  | @hMatchS ty σ nm σ2 hb r σ3 rest _ hnm _ _ _ ihhb =>
      have en := isName_isEvents nm hf.1.1.2
      have gn := exec_normal st x hnm (.inl (isEvents_inFrag st nm en)); have gb := ihhb r rfl (.inl hf.1.2)
      have pty := isReads_pass_not_gen x (σ3 x) ty hf.1.1.1
      simp only [isEvents_exNames nm en, OutAt, genAt, passAt, lateRead, exNames, List.mem_append,
        List.not_mem_nil, Bool.or_eq_true, and_false, false_or] at gn gb ⊢
      grind
  | @compS1 it σ r σ1 g _ ihit =>
      have ei := isReads_isEvents it hf.1.2
      have git := ihit r rfl (.inl (isEvents_inFrag st it ei))
      simp only [isEvents_exNames it ei, OutAt, genAt, passAt, lateRead, exNames, List.not_mem_nil, Bool.or_eq_true,
        and_false, false_or] at git ⊢
      grind
  | @compS2 it σ σ1 g r σ2 hit hg _ =>
      have ei := isReads_isEvents it hf.1.2
      have git := exec_normal st x hit (.inl (isEvents_inFrag st it ei))
      have cg := chain_ok x hg hf.2
      have lp := late_of_pass x r g hf.2
      have hh : x ∈ compTargets g ∨ State.hide (compTargets g) σ1 x = σ1 x := by
        by_cases e : x ∈ compTargets g <;> simp [State.hide, e]
      simp only [isEvents_exNames it ei, OutAt, genAt, passAt, lateRead, exNames, List.not_mem_nil,
        Bool.or_eq_true, reduceCtorEq, and_false, false_or] at git cg ⊢
      grind
  | @for_ it tg b e σ o σ' _ ih =>
      have g := ih r rfl (.inl (by
        simp [inFrag, isEvents, hf, isEvents_inFrag st it (isReads_isEvents it hf.1.1.1),
          isEvents_inFrag st tg (isBinds_isEvents tg hf.1.1.2)]))
      simp only [OutAt, for_genAt it tg b e hf.1.1.2, for_passAt it tg b e hf.1.1.2, lateRead, exNames, List.mem_append,
        List.not_mem_nil, Bool.or_eq_true] at g ⊢
      grind
  | @whileStep c σ σ1 b ob σ2 e o σ3 hc hb hob _ _ _ ihw =>
      have ob_normal : ob = .normal := by
        rcases exec_outcome st hb (.inl hf.1.2) with h | ⟨r, h⟩ <;> simp_all
      subst ob_normal
      have gc := exec_normal st x hc (.inl (isEvents_inFrag st c hf.1.1)); have gb := exec_normal st x hb (.inl hf.1.2)
      have gw := ihw r rfl (.inl (by simp only [inFrag, hf, Bool.and_self]))
      simp only [isEvents_exNames c hf.1.1, late_events _ x c hf.1.1, OutAt, genAt, passAt, lateRead, exNames,
        List.mem_append, List.not_mem_nil, Bool.or_eq_true, and_false, false_or] at gc gb gw ⊢
      grind
  | tryX hb => simpa using exec_outcome st hb (.inl hf.1.1.1.2)
  | @finA s σ o σ1 f _ σ2 hs hno _ _ _ ihf =>
      rcases exec_outcome st hs (.inl hf.1) with rfl | ⟨r', rfl⟩
      · have gs := exec_normal st x hs (.inl hf.1); have gf := ihf r rfl (.inl hf.2)
        simp only [OutAt, genAt, passAt, lateRead, exNames, List.mem_append, Bool.or_eq_true] at gs gf ⊢
        grind
      · exact absurd rfl (hno r')
  | _ =>
    -- with `st` and `x` fixed, `grind` can instantiate this from the `Exec … .normal …` premises of the rule
    have en := fun s σ σ' => @exec_normal s σ σ' st x
    simp only [OutAt, genAt, passAt, lateRead, exNames, List.mem_append, Bool.or_eq_true, List.not_mem_nil] <;>
    grind [OutAt, isEvents_inFrag, isReads_isEvents]

/-- per name: what `x` holds after a normal run of `s` is produced by `s` or passes through it.
    `sm = true`: stated for bindings only (`v ≠ none`); `sm = false`: also for "unbound" -/
def Step (sm : Bool) (s : Stmt) (x : Ident) (σ σ' : State) : Prop :=
  ∀ v, (sm = true → v ≠ none) → σ' x = v → gen s x v ∨ (pass s x ∧ σ x = v)

def StepAt (sm : Bool) (s : Stmt) (r : RId) (x : Ident) (σ σ' : State) : Prop :=
  ∀ v, (sm = true → v ≠ none) → σ' x = v → lateRead s r x = true ∨ genAt s r x v ∨ (passAt s r x ∧ σ x = v)

/-- outcome and state of a fragment execution -/
def Good (sm : Bool) (s : Stmt) (x : Ident) (σ : State) (o : Outcome) (σ' : State) : Prop :=
  (o = .normal ∧ Step sm s x σ σ') ∨ (∃ r, o = .stop r ∧ StepAt sm s r x σ σ')

/-- `sm = false` needs `x` not to be an except-clause name of `s` (those are unbound again when the handler is left,
    which supp does not model) -/
theorem exec_good (sm st : Bool) (x : Ident) (h : Exec s σ o σ') :
    (inFrag st s = true → (sm = true ∨ x ∉ exNames s) → Good sm s x σ o σ') ∧
    (inFrag.inHs st s = true → (sm = true ∨ x ∉ exNames s) → Good sm s x σ o σ') := by
  have key (hf : inFrag st s = true ∨ inFrag.inHs st s = true) (hx : sm = true ∨ x ∉ exNames s) :
      Good sm s x σ o σ' := by
    rcases exec_outcome st h hf with rfl | ⟨r, rfl⟩
    · have g := exec_normal st x h hf
      exact .inl ⟨rfl, fun v hv e => by subst e; grind⟩
    · have g := exec_stop st x h r rfl hf
      exact .inr ⟨r, rfl, fun v hv e => by subst e; simp only [OutAt] at g; grind⟩
  exact ⟨fun hf => key (.inl hf), fun hf => key (.inr hf)⟩

end SuppModel.Den
