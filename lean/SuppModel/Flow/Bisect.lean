/-
  `bisect_right` and `insert_loc` only COMPARE positions: the index is a function of the list of
  comparisons `names.map (Pos.lt pos ·.loc)` (`bisectRight_congr`), which `queryIso` tests for
  equality and an order-preserving map keeps; on a region sorted by `Pos.le` the index splits the
  region into the bindings at or before the position and those after it.
-/
import SuppModel.Flow.Scoping
import SuppModel.Flow.Iso
namespace SuppModel.Flow

theorem Pos.lt_iff (a b : Pos) : Pos.lt a b = true ↔ a.1 < b.1 ∨ (a.1 = b.1 ∧ a.2 < b.2) := by
  unfold Pos.lt
  simp

theorem Pos.le_iff (a b : Pos) : Pos.le a b = true ↔ a.1 < b.1 ∨ (a.1 = b.1 ∧ a.2 ≤ b.2) := by
  unfold Pos.le
  rw [Bool.not_eq_true', ← Bool.not_eq_true, Pos.lt_iff]
  omega

theorem Pos.le_trans {a b c : Pos} (h1 : Pos.le a b = true) (h2 : Pos.le b c = true) :
    Pos.le a c = true := by
  rw [Pos.le_iff] at *
  omega

theorem Pos.le_refl (a : Pos) : Pos.le a a = true := by
  rw [Pos.le_iff]; omega

theorem Pos.le_of_lt {a b : Pos} (h : Pos.lt a b = true) : Pos.le a b = true := by
  rw [Pos.le_iff]; rw [Pos.lt_iff] at h; omega

theorem Pos.lt_of_lt_of_le {p a b : Pos} (h1 : Pos.lt p a = true) (h2 : Pos.le a b = true) :
    Pos.lt p b = true := by
  rw [Pos.lt_iff] at *
  rw [Pos.le_iff] at h2
  omega

/-- `bisectGo` with the comparison abstracted to a test on indices -/
def bsearch (p : Nat → Bool) : Nat → Nat → Nat → Nat
  | 0, lo, _ => lo
  | fuel + 1, lo, hi =>
    if lo < hi then
      if p ((lo + hi) / 2) then bsearch p fuel lo ((lo + hi) / 2)
      else bsearch p fuel ((lo + hi) / 2 + 1) hi
    else lo

/-- also out of range: there `a[i]!` is the default record, at `(0, 0)`, which nothing is before -/
theorem lt_loc_getElem! (a : Array NameRec) (pos : Pos) (i : Nat) :
    Pos.lt pos (a[i]!).loc = (a.toList.map (Pos.lt pos ·.loc)).getD i false := by
  rw [getElem!_def, List.getD_eq_getElem?_getD, List.getElem?_map, Array.getElem?_toList]
  cases a[i]? with
  | some x => rfl
  | none => show Pos.lt pos (0, 0) = false; simp [Pos.lt]

theorem bisectGo_eq_bsearch (a : Array NameRec) (pos : Pos) : ∀ fuel lo hi,
    bisectGo a pos fuel lo hi =
      bsearch ((a.toList.map (Pos.lt pos ·.loc)).getD · false) fuel lo hi := by
  intro fuel
  induction fuel with
  | zero => intros; rfl
  | succ k ih => intro lo hi; rw [bisectGo, bsearch]; simp only [ih, lt_loc_getElem!]

def FirstTrue (p : Nat → Bool) (n r : Nat) : Prop :=
  (∀ i, i < r → p i = false) ∧ ∀ i, r ≤ i → i < n → p i = true

/-- the loop invariant of `bisect_right` for a test that is monotone below `n` -/
theorem bsearch_spec {p : Nat → Bool} {n : Nat}
    (hmono : ∀ i j, i ≤ j → j < n → p i = true → p j = true) :
    ∀ fuel lo hi, lo ≤ hi → hi ≤ n → hi - lo < fuel →
      (∀ i, i < lo → p i = false) → (∀ i, hi ≤ i → i < n → p i = true) →
      FirstTrue p n (bsearch p fuel lo hi) := by
  intro fuel
  induction fuel with
  | zero => intro lo hi _ _ hf; omega
  | succ k ih =>
    intro lo hi hlh hhn hf hlo hhi
    rw [bsearch]
    split
    · obtain ⟨h1, h2⟩ : lo ≤ (lo + hi) / 2 ∧ (lo + hi) / 2 < hi := by omega
      generalize (lo + hi) / 2 = mid at h1 h2 ⊢
      have hm : mid < n := Nat.lt_of_lt_of_le h2 hhn
      split
      · next hq =>
        exact ih lo mid h1 (Nat.le_of_lt hm) (by omega) hlo fun i h3 h4 => hmono _ _ h3 h4 hq
      · next hq =>
        exact ih (mid + 1) hi h2 hhn (by omega)
          (fun i hi1 => Bool.eq_false_iff.mpr fun hpi =>
            hq (hmono i mid (Nat.le_of_lt_succ hi1) hm hpi)) hhi
    · have : lo = hi := by omega
      subst this
      exact ⟨hlo, hhi⟩

theorem bisectRight_eq (names : List NameRec) (pos : Pos) : bisectRight names pos =
    bsearch ((names.map (Pos.lt pos ·.loc)).getD · false) (names.length + 1) 0 names.length :=
  bisectGo_eq_bsearch _ _ _ _ _

theorem bisectRight_congr {names1 names2 : List NameRec} {p q : Pos}
    (h : names1.map (Pos.lt p ·.loc) = names2.map (Pos.lt q ·.loc)) :
    bisectRight names1 p = bisectRight names2 q := by
  have hl : names1.length = names2.length := by simpa using congrArg List.length h
  rw [bisectRight_eq, bisectRight_eq, h, hl]

theorem bisectRight_map (φ : Pos → Pos) (names : List NameRec) (pos : Pos)
    (h : OrderPreserving φ (pos :: names.map (·.loc))) :
    bisectRight (names.map (NameRec.mapLoc φ)) (φ pos) = bisectRight names pos :=
  bisectRight_congr (by
    rw [List.map_map]
    exact List.map_congr_left fun n hn =>
      h pos List.mem_cons_self n.loc (List.mem_cons_of_mem _ (List.mem_map_of_mem hn)))

theorem insertLoc_map (φ : Pos → Pos) (names : List NameRec) (n : NameRec)
    (h : OrderPreserving φ (n.loc :: names.map (·.loc))) :
    insertLoc (names.map (NameRec.mapLoc φ)) (NameRec.mapLoc φ n) =
      (insertLoc names n).map (NameRec.mapLoc φ) := by
  unfold insertLoc
  rw [List.getLast?_map]
  cases hl : names.getLast? with
  | none => rfl
  | some l =>
    have e1 : Pos.lt (NameRec.mapLoc φ l).loc (NameRec.mapLoc φ n).loc = Pos.lt l.loc n.loc :=
      h l.loc (List.mem_cons_of_mem _ (List.mem_map_of_mem (List.mem_of_getLast? hl))) n.loc
        List.mem_cons_self
    have e2 : (NameRec.mapLoc φ n).loc = φ n.loc := rfl
    simp only [Option.map_some]
    rw [e1, e2, bisectRight_map φ names n.loc h]
    split
    · simp
    · simp [List.map_take, List.map_drop]

theorem queryIso_iff {p1 p2 : Pos} {l1 l2 : List Pos} :
    queryIso p1 p2 l1 l2 = true ↔ l1.map (Pos.lt p1) = l2.map (Pos.lt p2) := by
  simp only [queryIso, Bool.and_eq_true, beq_iff_eq, List.all_eq_true]
  induction l1 generalizing l2 with
  | nil => cases l2 <;> simp
  | cons a l1 ih =>
    cases l2 with
    | nil => simp
    | cons b l2 =>
      simp only [List.length_cons, List.zip_cons_cons, List.forall_mem_cons, List.map_cons,
        List.cons.injEq, Nat.add_right_cancel_iff, ← ih]
      exact ⟨fun ⟨h1, h2, h3⟩ => ⟨h2, h1, h3⟩, fun ⟨h2, h1, h3⟩ => ⟨h1, h2, h3⟩⟩

theorem queryIsoAt_of_orderIsoAt {g1 g2 : Graph} {f : Nat} {pos1 pos2 : Pos}
    (ho : orderIsoAt g1 g2 f pos1 pos2 = true) : queryIsoAt g1 g2 f pos1 pos2 = true := by
  simp only [orderIsoAt, sameOrder, List.zip_cons_cons, List.all_cons, List.length_cons,
    Bool.and_eq_true, beq_iff_eq, Nat.add_right_cancel_iff] at ho
  simp only [queryIsoAt, queryIso, Bool.and_eq_true, beq_iff_eq]
  exact ⟨ho.1, ho.2.1.2⟩

theorem bisect_of_queryIso {g1 g2 : Graph} {f : Nat} {pos1 pos2 : Pos}
    (ho : queryIsoAt g1 g2 f pos1 pos2 = true) (fr1 fr2 : FlowRec)
    (h1 : g1.flow? f = some fr1) (h2 : g2.flow? f = some fr2) :
    bisectRight fr2.names pos2 = bisectRight fr1.names pos1 := by
  rw [queryIsoAt, queryIso_iff, Graph.locsOf, Graph.locsOf, h1, h2] at ho
  simp only [Option.map_some, Option.getD_some, List.map_map] at ho
  exact (bisectRight_congr ho).symm

theorem bisect_of_orderIso {g1 g2 : Graph} {f : Nat} {pos1 pos2 : Pos}
    (ho : orderIsoAt g1 g2 f pos1 pos2 = true) (fr1 fr2 : FlowRec)
    (h1 : g1.flow? f = some fr1) (h2 : g2.flow? f = some fr2) :
    bisectRight fr2.names pos2 = bisectRight fr1.names pos1 :=
  bisect_of_queryIso (queryIsoAt_of_orderIsoAt ho) fr1 fr2 h1 h2

def SortedLoc (l : List NameRec) : Prop := l.Pairwise (fun a b => Pos.le a.loc b.loc = true)

theorem sortedLoc_of (l : List NameRec) (h : sortedByLoc l = true) : SortedLoc l := by
  unfold SortedLoc
  induction l with
  | nil => exact List.Pairwise.nil
  | cons a l ih =>
    cases l with
    | nil => exact List.pairwise_singleton _ _
    | cons b r =>
      rw [sortedByLoc, Bool.and_eq_true] at h
      have ih' := ih h.2
      refine List.pairwise_cons.mpr ⟨fun x hx => ?_, ih'⟩
      rcases List.mem_cons.mp hx with rfl | hx
      · exact h.1
      · exact Pos.le_trans h.1 ((List.pairwise_cons.mp ih').1 x hx)

theorem sortedByLoc_of (l : List NameRec) (h : SortedLoc l) : sortedByLoc l = true := by
  unfold SortedLoc at h
  induction l with
  | nil => rfl
  | cons a l ih =>
    cases l with
    | nil => rfl
    | cons b r =>
      rw [List.pairwise_cons] at h
      rw [sortedByLoc, Bool.and_eq_true]
      exact ⟨h.1 b List.mem_cons_self, ih h.2⟩

theorem bisectRight_spec (names : List NameRec) (pos : Pos) (h : SortedLoc names) :
    (∀ x ∈ names.take (bisectRight names pos), Pos.le x.loc pos = true) ∧
    (∀ x ∈ names.drop (bisectRight names pos), Pos.lt pos x.loc = true) := by
  have hget : ∀ i (hi : i < names.length),
      (names.map (Pos.lt pos ·.loc)).getD i false = Pos.lt pos names[i].loc :=
    fun i hi => by simp [hi]
  -- the comparisons are monotone along a sorted region
  obtain ⟨h2, h3⟩ := bsearch_spec (p := ((names.map (Pos.lt pos ·.loc)).getD · false))
    (n := names.length)
    (fun i j hij hj hpi => by
      rcases Nat.lt_or_eq_of_le hij with hlt | rfl
      · rw [hget i (by omega)] at hpi
        rw [hget j hj]
        exact Pos.lt_of_lt_of_le hpi (List.pairwise_iff_getElem.mp h i j (by omega) hj hlt)
      · exact hpi)
    (names.length + 1) 0 names.length (Nat.zero_le _) (Nat.le_refl _) (by omega)
    (fun i hi => by omega) (fun i hi1 hi2 => by omega)
  rw [← bisectRight_eq] at h2 h3
  refine ⟨fun x hx => ?_, fun x hx => ?_⟩
  · obtain ⟨j, hj, rfl⟩ := List.mem_take_iff_getElem.mp hx
    rw [Nat.lt_min] at hj
    rw [Pos.le, ← hget j hj.2]
    exact congrArg (!·) (h2 j hj.1)
  · obtain ⟨j, hj, rfl⟩ := List.mem_drop_iff_getElem.mp hx
    exact hget (bisectRight names pos + j) (by omega) ▸ h3 _ (Nat.le_add_right _ j) (by omega)

theorem take_bisect_eq_filter (names : List NameRec) (pos : Pos) (h : SortedLoc names) :
    names.take (bisectRight names pos) = names.filter (fun n => Pos.le n.loc pos) := by
  obtain ⟨h2, h3⟩ := bisectRight_spec names pos h
  conv => rhs; rw [← List.take_append_drop (bisectRight names pos) names]
  rw [List.filter_append, List.filter_eq_self.mpr h2, List.filter_eq_nil_iff.mpr, List.append_nil]
  intro x hx
  rw [Pos.le, h3 x hx]
  exact Bool.false_ne_true

theorem insertLoc_sorted (names : List NameRec) (n : NameRec) (h : SortedLoc names) :
    SortedLoc (insertLoc names n) := by
  unfold insertLoc
  split
  · next l hl =>
    split
    · next hlt =>
      obtain ⟨ys, rfl⟩ := List.getLast?_eq_some_iff.mp hl
      refine List.pairwise_append.mpr ⟨h, List.pairwise_singleton _ _, fun a ha b hb => ?_⟩
      rcases List.mem_singleton.mp hb with rfl
      rcases List.mem_append.mp ha with ha | ha
      · exact Pos.le_trans ((List.pairwise_append.mp h).2.2 a ha l (List.mem_singleton.mpr rfl))
          (Pos.le_of_lt hlt)
      · exact List.mem_singleton.mp ha ▸ Pos.le_of_lt hlt
    · obtain ⟨h2, h3⟩ := bisectRight_spec names n.loc h
      have hsplit := h
      unfold SortedLoc at hsplit ⊢
      rw [← List.take_append_drop (bisectRight names n.loc) names, List.pairwise_append] at hsplit
      rw [List.append_assoc, List.pairwise_append]
      refine ⟨hsplit.1, List.pairwise_cons.mpr ⟨fun b hb => Pos.le_of_lt (h3 b hb), hsplit.2.1⟩,
        fun a ha b hb => ?_⟩
      rcases List.mem_cons.mp hb with rfl | hb
      · exact h2 a ha
      · exact hsplit.2.2 a ha b hb
  · exact List.pairwise_singleton _ _

end SuppModel.Flow
