/-
  The evaluator of Graph.lean at fuel `n + 1`, one equation per function, in `bind`/`map` form
  (so that `isSome`, `= some t` and congruence arguments are `simp only` with core `Option`
  lemmas), and the record lookups `flow?` / `scope?`.
-/
import SuppModel.Flow.Graph
namespace SuppModel.Flow

theorem flow?_mem {g : Graph} {f : Nat} {fr : FlowRec} (h : g.flow? f = some fr) : fr ∈ g.flows :=
  List.mem_of_find?_eq_some h

theorem flow?_id {g : Graph} {f : Nat} {fr : FlowRec} (h : g.flow? f = some fr) : fr.id = f := by
  simpa using List.find?_some h

theorem scope?_mem {g : Graph} {s : Nat} {sc : ScopeRec} (h : g.scope? s = some sc) :
    sc ∈ g.scopes :=
  List.mem_of_find?_eq_some h

theorem scope?_id {g : Graph} {s : Nat} {sc : ScopeRec} (h : g.scope? s = some sc) : sc.id = s := by
  simpa using List.find?_some h

theorem ownTable_eq (names : List NameRec) :
    ownTable names = (names.map fun n => (n.name, [Alt.nm n.id])).reverse := by
  rw [ownTable, List.foldl_flip_cons_eq_append, List.append_nil]

theorem globalsTable_eq (s : ScopeRec) : globalsTable s = ownTable s.globals := rfl

def Parent.target : Parent → Nat
  | .flow q => q
  | .loop _ t => t

def predNames (g : Graph) (n : Nat) (R : List Nat) : Parent → Option (Option Tbl)
  | .flow q => (flowNames g n R q).map some
  | .loop l t => loopNames g n R l t

variable {g : Graph} {n : Nat} {R : List Nat}

@[simp] theorem flowNames_zero {f} : flowNames g 0 R f = none := by rw [flowNames]
@[simp] theorem parentNames_zero {fr} : parentNames g 0 R fr = none := by rw [parentNames]
@[simp] theorem parentTables_zero {ps} : parentTables g 0 R ps = none := by rw [parentTables]
@[simp] theorem loopNames_zero {l t} : loopNames g 0 R l t = none := by rw [loopNames]
@[simp] theorem scopeNames_zero {s} : scopeNames g 0 R s = none := by rw [scopeNames]

theorem flowNames_succ {f} : flowNames g (n + 1) R f =
    (g.flow? f).bind fun fr => (parentNames g n R fr).map (ownTable fr.names ++ ·) := by
  rw [flowNames]
  cases g.flow? f with
  | none => rfl
  | some fr => exact (Option.map_eq_bind ..).symm

theorem namesAt_eq {f pos} : namesAt g n R f pos = (g.flow? f).bind fun fr =>
    (parentNames g n R fr).map (ownTable (fr.names.take (bisectRight fr.names pos)) ++ ·) := by
  unfold namesAt
  cases g.flow? f with
  | none => rfl
  | some fr => exact (Option.map_eq_bind ..).symm

theorem namesAt_isSome {f pos} :
    (namesAt g n R f pos).isSome = (flowNames g (n + 1) R f).isSome := by
  rw [namesAt_eq, flowNames_succ]
  cases g.flow? f with
  | none => rfl
  | some fr => simp only [Option.bind_some, Option.isSome_map]

/-- what `parent_names` makes of the enclosing scope's table -/
def scopeWrap (sc : ScopeRec) (outer : Tbl) : Tbl :=
  match sc.kind with
  | .module => globalsTable sc ++ outer
  | .cls => outer
  | _ => outer.filter (fun e => !sc.locals.contains e.1)

theorem parentNames_nil {fr : FlowRec} (hp : fr.parents = []) : parentNames g (n + 1) R fr =
    (g.scope? fr.scope).bind fun sc =>
      match sc.parent with
      | none => some []
      | some ps => (scopeNames g n R ps).map (scopeWrap sc) := by
  rw [parentNames, hp]
  cases g.scope? fr.scope with
  | none => rfl
  | some sc =>
    cases hpar : sc.parent with
    | none => simp only [hpar, Option.bind_some]
    | some ps =>
      simp only [hpar, Option.bind_some]
      cases scopeNames g n R ps with
      | none => rfl
      | some outer => unfold scopeWrap; cases sc.kind <;> rfl

theorem parentNames_single {fr : FlowRec} {p : Parent} (hp : fr.parents = [p]) :
    parentNames g (n + 1) R fr = (predNames g n R p).map (·.getD []) := by
  rw [parentNames, hp]
  cases p with
  | flow q => cases h : flowNames g n R q <;> simp [predNames, h]
  | loop l t => exact (Option.map_eq_bind ..).symm

theorem parentNames_many {fr : FlowRec} {a b : Parent} {rest : List Parent}
    (hp : fr.parents = a :: b :: rest) :
    parentNames g (n + 1) R fr = (parentTables g n R fr.parents).map mergeTables := by
  rw [parentNames, hp]
  simp only []
  exact (Option.map_eq_bind ..).symm

theorem parentTables_nil : parentTables g (n + 1) R [] = some [] := by rw [parentTables]

theorem parentTables_cons {p : Parent} {rest : List Parent} : parentTables g (n + 1) R (p :: rest) =
    (predNames g n R p).bind fun r => (parentTables g n R rest).map (r.toList ++ ·) := by
  cases p with
  | flow q =>
    rw [parentTables, predNames]
    cases flowNames g n R q with
    | none => rfl
    | some t => exact (Option.map_eq_bind ..).symm
  | loop l t =>
    rw [parentTables, predNames]
    cases loopNames g n R l t with
    | none => rfl
    | some r => cases parentTables g n R rest <;> cases r <;> rfl

theorem loopNames_succ {l t} : loopNames g (n + 1) R l t =
    if R.contains l then some none else (flowNames g n (l :: R) t).map some := by
  rw [loopNames]
  split
  · rfl
  · exact (Option.map_eq_bind ..).symm

theorem scopeNames_succ {s} : scopeNames g (n + 1) R s = (g.scope? s).bind fun sc =>
    match sc.kind with
    | .builtin => some (builtinTable g)
    | .module => (flowNames g n R sc.final).map (· ++ globalsTable sc)
    | .func => flowNames g n R sc.final
    | .cls => sc.parent.bind (scopeNames g n R) := by
  rw [scopeNames]
  cases g.scope? s with
  | none => rfl
  | some sc =>
    simp only [Option.bind_some]
    cases sc.kind with
    | module => exact (Option.map_eq_bind ..).symm
    | cls => cases sc.parent <;> rfl
    | _ => rfl

end SuppModel.Flow
