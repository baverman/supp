/-
  C13: two graphs that are equal once positions are erased give the same table for a query as
  soon as `bisectRight` gives the same index in the queried region (`namesAt_core`,
  `mNamesAt_core`: everything else ignores `loc`, MapNames.lean); histories of queries.
-/
import SuppModel.Flow.Bisect
import SuppModel.Flow.MapNames
namespace SuppModel.Flow

theorem Graph.ext' {a b : Graph} (h1 : a.flows = b.flows) (h2 : a.scopes = b.scopes)
    (h3 : a.builtins = b.builtins) : a = b := by
  cases a; cases b; simp_all

theorem sameShape_eq {g1 g2 : Graph} (h : sameShape g1 g2 = true) : g1.eraseLoc = g2.eraseLoc := by
  unfold sameShape at h
  simp only [Bool.and_eq_true, decide_eq_true_eq] at h
  exact Graph.ext' h.1.1 h.1.2 h.2

theorem mapNames_mapNames (ψ ψ' : NameRec → NameRec) (g : Graph) :
    (g.mapNames ψ).mapNames ψ' = g.mapNames (ψ' ∘ ψ) := by
  unfold Graph.mapNames FlowRec.mapNames ScopeRec.mapNames
  simp [List.map_map, Function.comp_def]

theorem eraseLoc_mapLoc (φ : Pos → Pos) (g : Graph) : (g.mapLoc φ).eraseLoc = g.eraseLoc := by
  rw [Graph.eraseLoc_eq, Graph.mapLoc_eq, mapNames_mapNames, Graph.eraseLoc_eq]
  rfl

section
variable {φ : Pos → Pos}

theorem sameShape_mapLoc (g : Graph) : sameShape g (g.mapLoc φ) = true := by
  unfold sameShape
  rw [eraseLoc_mapLoc]
  simp [Graph.mapLoc]

theorem locsOf_mapLoc (g : Graph) (f : Nat) : (g.mapLoc φ).locsOf f = (g.locsOf f).map φ := by
  unfold Graph.locsOf
  rw [Graph.mapLoc_eq, flow?_mapNames]
  cases g.flow? f with
  | none => rfl
  | some fr => simp [FlowRec.mapNames, NameRec.mapLoc]

theorem zip_map_self {α β} (f : α → β) (l : List α) : l.zip (l.map f) = l.map fun a => (a, f a) := by
  rw [List.zip, List.zipWith_map_right, List.zipWith_self]

theorem sameOrder_map (ps : List Pos) (h : OrderPreserving φ ps) : sameOrder ps (ps.map φ) = true := by
  unfold sameOrder
  rw [zip_map_self]
  simp only [List.length_map, beq_self_eq_true, Bool.true_and, List.all_map, List.all_eq_true,
    Function.comp_apply, beq_iff_eq]
  exact fun a ha b hb => (h a ha b hb).symm

theorem orderIsoAt_mapLoc (g : Graph) (f : Nat) (pos : Pos) (h : OrderPreserving φ (pos :: g.locsOf f)) :
    orderIsoAt g (g.mapLoc φ) f pos (φ pos) = true := by
  unfold orderIsoAt
  rw [locsOf_mapLoc]
  exact sameOrder_map (pos :: g.locsOf f) h

theorem queryIso_map (pos pos' : Pos) (ls : List Pos) (h : ∀ l ∈ ls, Pos.lt pos' (φ l) = Pos.lt pos l) :
    queryIso pos pos' ls (ls.map φ) = true :=
  queryIso_iff.mpr (by rw [List.map_map]; exact List.map_congr_left fun l hl => (h l hl).symm)

theorem queryIsoAt_mapLoc (g : Graph) (f : Nat) (pos pos' : Pos)
    (h : ∀ l ∈ g.locsOf f, Pos.lt pos' (φ l) = Pos.lt pos l) :
    queryIsoAt g (g.mapLoc φ) f pos pos' = true := by
  unfold queryIsoAt
  rw [locsOf_mapLoc]
  exact queryIso_map pos pos' _ h

end

theorem flow?_of_shape {g1 g2 : Graph} (hE : g1.eraseLoc = g2.eraseLoc) (f : Nat) :
    (g1.flow? f = none ∧ g2.flow? f = none) ∨
    ∃ fr1 fr2, g1.flow? f = some fr1 ∧ g2.flow? f = some fr2 ∧
      fr2.mapNames NameRec.eraseLoc = fr1.mapNames NameRec.eraseLoc := by
  have h := congrArg (fun g => g.flow? f) hE
  simp only [Graph.eraseLoc_eq, flow?_mapNames] at h
  match g1.flow? f, g2.flow? f, h with
  | none, none, _ => exact Or.inl ⟨rfl, rfl⟩
  | some _, some _, h => exact Or.inr ⟨_, _, rfl, rfl, (Option.some.inj h).symm⟩

theorem ownTable_take_of_erase {names1 names2 : List NameRec} (k : Nat)
    (h : names2.map NameRec.eraseLoc = names1.map NameRec.eraseLoc) :
    ownTable (names2.take k) = ownTable (names1.take k) := by
  rw [← ownTable_map keeps_eraseLoc (names2.take k), ← ownTable_map keeps_eraseLoc (names1.take k),
    List.map_take, List.map_take, h]

theorem parentNames_of_shape {g1 g2 : Graph} (hE : g1.eraseLoc = g2.eraseLoc) (n : Nat) (R : List Nat)
    {fr1 fr2 : FlowRec} (h : fr2.mapNames NameRec.eraseLoc = fr1.mapNames NameRec.eraseLoc) :
    parentNames g2 n R fr2 = parentNames g1 n R fr1 := by
  rw [← (invP keeps_eraseLoc g2 n).pn R fr2 fr2 rfl rfl, ← Graph.eraseLoc_eq, ← hE, Graph.eraseLoc_eq,
    (invP keeps_eraseLoc g1 n).pn R fr2 fr1 (congrArg FlowRec.parents h :) (congrArg FlowRec.scope h :)]

theorem mParentNames_of_shape {g1 g2 : Graph} (hE : g1.eraseLoc = g2.eraseLoc) (n : Nat) (m : Memo)
    {fr1 fr2 : FlowRec} (h : fr2.mapNames NameRec.eraseLoc = fr1.mapNames NameRec.eraseLoc) :
    mParentNames g2 n m fr2 = mParentNames g1 n m fr1 := by
  rw [← (invM keeps_eraseLoc g2 n).pn m fr2 fr2 rfl rfl rfl, ← Graph.eraseLoc_eq, ← hE,
    Graph.eraseLoc_eq, (invM keeps_eraseLoc g1 n).pn m fr2 fr1 (congrArg FlowRec.id h :)
      (congrArg FlowRec.parents h :) (congrArg FlowRec.scope h :)]

theorem namesAt_core {g1 g2 : Graph} (hE : g1.eraseLoc = g2.eraseLoc) (n : Nat) (R : List Nat)
    (f : Nat) (pos1 pos2 : Pos)
    (hB : ∀ fr1 fr2, g1.flow? f = some fr1 → g2.flow? f = some fr2 →
      bisectRight fr2.names pos2 = bisectRight fr1.names pos1) :
    namesAt g2 n R f pos2 = namesAt g1 n R f pos1 := by
  unfold namesAt
  rcases flow?_of_shape hE f with ⟨h1, h2⟩ | ⟨fr1, fr2, h1, h2, h⟩
  · rw [h1, h2]
  · rw [h1, h2]
    simp only []
    rw [parentNames_of_shape hE n R h, hB fr1 fr2 h1 h2,
      ownTable_take_of_erase _ (congrArg FlowRec.names h :)]

theorem mNamesAt_core {g1 g2 : Graph} (hE : g1.eraseLoc = g2.eraseLoc) (n : Nat) (m : Memo)
    (f : Nat) (pos1 pos2 : Pos)
    (hB : ∀ fr1 fr2, g1.flow? f = some fr1 → g2.flow? f = some fr2 →
      bisectRight fr2.names pos2 = bisectRight fr1.names pos1) :
    mNamesAt g2 n m f pos2 = mNamesAt g1 n m f pos1 := by
  unfold mNamesAt
  rcases flow?_of_shape hE f with ⟨h1, h2⟩ | ⟨fr1, fr2, h1, h2, h⟩
  · rw [h1, h2]
  · rw [h1, h2]
    simp only []
    rw [mParentNames_of_shape hE n m h, hB fr1 fr2 h1 h2,
      ownTable_take_of_erase _ (congrArg FlowRec.names h :)]

theorem namesAt_mapLoc (φ : Pos → Pos) (g : Graph) (n : Nat) (R : List Nat) (f : Nat) (pos : Pos)
    (h : OrderPreserving φ (g.flowPositions f pos)) :
    namesAt (g.mapLoc φ) n R f (φ pos) = namesAt g n R f pos :=
  namesAt_core (eraseLoc_mapLoc φ g).symm n R f pos (φ pos) (bisect_of_orderIso (orderIsoAt_mapLoc g f pos h))

theorem runQueries_cons_congr {g1 g2 : Graph} {n : Nat} {m : Memo} {q1 q2 : Query}
    {r1 r2 : List Query} (hk : q2.key = q1.key)
    (e : mNamesAt g2 n m q2.flow q2.pos = mNamesAt g1 n m q1.flow q1.pos)
    (ih : ∀ m, runQueries g2 n m r2 = runQueries g1 n m r1) :
    runQueries g2 n m (q2 :: r2) = runQueries g1 n m (q1 :: r1) := by
  rw [runQueries, runQueries, e, hk]
  cases mNamesAt g1 n m q1.flow q1.pos <;> simp only [ih]

theorem runQueries_mapLoc (φ : Pos → Pos) (g : Graph) (n : Nat) : ∀ (qs : List Query) (m : Memo),
    (∀ q ∈ qs, OrderPreserving φ (g.flowPositions q.flow q.pos)) →
      runQueries (g.mapLoc φ) n m (qs.map (fun q => { q with pos := φ q.pos })) =
        runQueries g n m qs
  | [], _, _ => rfl
  | q :: qs, m, h =>
    runQueries_cons_congr rfl
      (mNamesAt_core (eraseLoc_mapLoc φ g).symm n m q.flow q.pos (φ q.pos)
        (bisect_of_orderIso (orderIsoAt_mapLoc g q.flow q.pos (h q List.mem_cons_self))))
      fun m => runQueries_mapLoc φ g n qs m fun q' hq' => h q' (List.mem_cons_of_mem _ hq')

theorem historiesQueryIso_of_historiesIso (g1 g2 : Graph) : ∀ (qs1 qs2 : List Query),
    historiesIso g1 g2 qs1 qs2 = true → historiesQueryIso g1 g2 qs1 qs2 = true := by
  intro qs1 qs2
  fun_induction historiesIso g1 g2 qs1 qs2 with
  | case1 => exact fun _ => rfl
  | case2 q1 r1 q2 r2 ih =>
    intro h
    rw [Bool.and_eq_true, Bool.and_eq_true] at h
    rw [historiesQueryIso, Bool.and_eq_true, Bool.and_eq_true]
    exact ⟨⟨h.1.1, queryIsoAt_of_orderIsoAt h.1.2⟩, ih h.2⟩
  | case3 => exact fun h => nomatch h

theorem runQueries_layouts (g1 g2 : Graph) (n : Nat) (hs : sameShape g1 g2 = true) :
    ∀ (qs1 qs2 : List Query) (m : Memo), historiesQueryIso g1 g2 qs1 qs2 = true →
      runQueries g2 n m qs2 = runQueries g1 n m qs1 := by
  intro qs1 qs2
  fun_induction historiesQueryIso g1 g2 qs1 qs2 with
  | case1 => exact fun _ _ => rfl
  | case2 q1 r1 q2 r2 ih =>
    intro m h
    simp only [Bool.and_eq_true, beq_iff_eq] at h
    obtain ⟨⟨⟨hf, hk⟩, ho⟩, hr⟩ := h
    refine runQueries_cons_congr hk.symm ?_ fun m => ih m hr
    rw [← hf]
    exact mNamesAt_core (sameShape_eq hs) n m q1.flow q1.pos q2.pos (bisect_of_queryIso ho)
  | case3 => exact fun _ h => nomatch h

end SuppModel.Flow
