/-
  The TAGGED pure evaluator, as a derivation relation: `Ev g W R c o` says "the pure evaluator of
  Graph.lean, with the loops `R` cut, gives `o` for the call `c` (some fuel suffices), and every
  loop it CONSULTS on the way - cut or resolved, at any depth - is in `W`".

    `Ev.pure`    it projects to the pure evaluator (the `Ev…` predicates of LemmasPure);
    `Ev.mono`    `W` may be enlarged, and (locality) if `R` and `R'` agree on every loop of
                 `W`, the same derivation works under `R'`.
-/
import SuppModel.Flow.LemmasPure
import SuppModel.Flow.Checked
namespace SuppModel.Flow

/-- the five mutually recursive functions of Graph.lean, as one family of calls -/
inductive Call where
  | fl (f : Nat)
  | pn (fr : FlowRec)
  | pt (ps : List Parent)
  | lp (l tg : Nat)
  | sc (s : Nat)

inductive Out where
  | t (t : Tbl)
  | ts (ts : List Tbl)
  | o (r : Option Tbl)

inductive Ev (g : Graph) (W : List Nat) : List Nat → Call → Out → Prop
  | fl {R f fr p} : g.flow? f = some fr → Ev g W R (.pn fr) (.t p) →
      Ev g W R (.fl f) (.t (ownTable fr.names ++ p))
  | pnRoot {R fr sc} : fr.parents = [] → g.scope? fr.scope = some sc → sc.parent = none →
      Ev g W R (.pn fr) (.t [])
  | pnScope {R fr sc ps outer} : fr.parents = [] → g.scope? fr.scope = some sc →
      sc.parent = some ps → Ev g W R (.sc ps) (.t outer) → Ev g W R (.pn fr) (.t (scopeWrap sc outer))
  | pnFlow {R fr p t} : fr.parents = [Parent.flow p] → Ev g W R (.fl p) (.t t) →
      Ev g W R (.pn fr) (.t t)
  | pnLoop {R fr l tg r} : fr.parents = [Parent.loop l tg] → Ev g W R (.lp l tg) (.o r) →
      Ev g W R (.pn fr) (.t (r.getD []))
  | pnMany {R fr a b rest ts} : fr.parents = a :: b :: rest → Ev g W R (.pt (a :: b :: rest)) (.ts ts) →
      Ev g W R (.pn fr) (.t (mergeTables ts))
  | ptNil {R} : Ev g W R (.pt []) (.ts [])
  | ptFlow {R p rest t ts} : Ev g W R (.fl p) (.t t) → Ev g W R (.pt rest) (.ts ts) →
      Ev g W R (.pt (Parent.flow p :: rest)) (.ts (t :: ts))
  | ptLoop {R l tg rest r ts} : Ev g W R (.lp l tg) (.o r) → Ev g W R (.pt rest) (.ts ts) →
      Ev g W R (.pt (Parent.loop l tg :: rest)) (.ts (r.toList ++ ts))
  | lpCut {R l tg} : R.contains l = true → l ∈ W → Ev g W R (.lp l tg) (.o none)
  | lpRes {R l tg t} : R.contains l = false → l ∈ W → Ev g W (l :: R) (.fl tg) (.t t) →
      Ev g W R (.lp l tg) (.o (some t))
  | scBuiltin {R s sc} : g.scope? s = some sc → sc.kind = .builtin →
      Ev g W R (.sc s) (.t (builtinTable g))
  | scModule {R s sc t} : g.scope? s = some sc → sc.kind = .module → Ev g W R (.fl sc.final) (.t t) →
      Ev g W R (.sc s) (.t (t ++ globalsTable sc))
  | scFunc {R s sc t} : g.scope? s = some sc → sc.kind = .func → Ev g W R (.fl sc.final) (.t t) →
      Ev g W R (.sc s) (.t t)
  | scCls {R s sc p t} : g.scope? s = some sc → sc.kind = .cls → sc.parent = some p →
      Ev g W R (.sc p) (.t t) → Ev g W R (.sc s) (.t t)

def PureOut (g : Graph) (R : List Nat) : Call → Out → Prop
  | .fl f, .t t => EvFl g R f t
  | .pn fr, .t t => EvPn g R fr t
  | .pt ps, .ts ts => EvPt g R ps ts
  | .lp l tg, .o r => EvLp g R l tg r
  | .sc s, .t t => EvSc g R s t
  | _, _ => False

theorem Ev.pure {g W R c o} (h : Ev g W R c o) : PureOut g R c o := by
  induction h with
  | fl hfr _ ih => obtain ⟨n, hn⟩ := ih; exact ⟨n + 1, by rw [flowNames_succ, hfr, Option.bind_some, hn]; rfl⟩
  | pnRoot hp hsc hpar => exact ⟨1, by rw [parentNames_nil hp, hsc, Option.bind_some]; simp only [hpar]⟩
  | pnScope hp hsc hpar _ ih =>
    obtain ⟨n, hn⟩ := ih
    exact ⟨n + 1, by rw [parentNames_nil hp, hsc, Option.bind_some]; simp only [hpar, hn, Option.map_some]⟩
  | pnFlow hp _ ih | pnLoop hp _ ih =>
    obtain ⟨n, hn⟩ := ih
    exact ⟨n + 1, by rw [parentNames_single hp, predNames, hn]; rfl⟩
  | pnMany hp _ ih => obtain ⟨n, hn⟩ := ih; exact ⟨n + 1, by rw [parentNames_many hp, hp, hn]; rfl⟩
  | ptNil => exact ⟨1, parentTables_nil⟩
  | @ptFlow R p rest t ts _ _ ih1 ih2 =>
    obtain ⟨n1, hn1⟩ := ih1
    obtain ⟨n2, hn2⟩ := ih2
    have e1 := flowNames_mono g (Nat.le_max_left n1 n2) R p t hn1
    have e2 := parentTables_mono g (Nat.le_max_right n1 n2) R rest ts hn2
    exact ⟨max n1 n2 + 1, by rw [parentTables_cons, predNames, e1, Option.map_some, Option.bind_some, e2]; rfl⟩
  | @ptLoop R l tg rest r ts _ _ ih1 ih2 =>
    obtain ⟨n1, hn1⟩ := ih1
    obtain ⟨n2, hn2⟩ := ih2
    have e1 := loopNames_mono g (Nat.le_max_left n1 n2) R l tg r hn1
    have e2 := parentTables_mono g (Nat.le_max_right n1 n2) R rest ts hn2
    exact ⟨max n1 n2 + 1, by rw [parentTables_cons, predNames, e1, Option.bind_some, e2]; rfl⟩
  | lpCut hc _ => exact ⟨1, by rw [loopNames_succ, if_pos hc]⟩
  | lpRes hc _ _ ih => exact EvLp.resolved hc ih
  | scBuiltin hsc hk => exact EvSc.builtin hsc hk
  | scModule hsc hk _ ih => exact EvSc.module hsc hk ih
  | scFunc hsc hk _ ih =>
    obtain ⟨n, hn⟩ := ih
    exact ⟨n + 1, by rw [scopeNames_succ, hsc, Option.bind_some]; simp only [hk, hn]⟩
  | scCls hsc hk hp _ ih =>
    obtain ⟨n, hn⟩ := ih
    exact ⟨n + 1, by rw [scopeNames_succ, hsc, Option.bind_some]; simp only [hk, hp, Option.bind_some, hn]⟩

theorem Ev.mono {g W W' R c o} (h : Ev g W R c o) (hw : ∀ l ∈ W, l ∈ W') (R' : List Nat)
    (hag : ∀ l ∈ W, R.contains l = R'.contains l) : Ev g W' R' c o := by
  induction h generalizing R' with
  | fl hfr _ ih => exact Ev.fl hfr (ih _ hag)
  | pnRoot hp hsc hpar => exact Ev.pnRoot hp hsc hpar
  | pnScope hp hsc hpar _ ih => exact Ev.pnScope hp hsc hpar (ih _ hag)
  | pnFlow hp _ ih => exact Ev.pnFlow hp (ih _ hag)
  | pnLoop hp _ ih => exact Ev.pnLoop hp (ih _ hag)
  | pnMany hp _ ih => exact Ev.pnMany hp (ih _ hag)
  | ptNil => exact Ev.ptNil
  | ptFlow _ _ ih1 ih2 => exact Ev.ptFlow (ih1 _ hag) (ih2 _ hag)
  | ptLoop _ _ ih1 ih2 => exact Ev.ptLoop (ih1 _ hag) (ih2 _ hag)
  | lpCut hc hl => exact Ev.lpCut (hag _ hl ▸ hc) (hw _ hl)
  | lpRes hc hl _ ih =>
    refine Ev.lpRes (hag _ hl ▸ hc) (hw _ hl) (ih _ fun x hx => ?_)
    rw [List.contains_cons, List.contains_cons, hag x hx]
  | scBuiltin hsc hk => exact Ev.scBuiltin hsc hk
  | scModule hsc hk _ ih => exact Ev.scModule hsc hk (ih _ hag)
  | scFunc hsc hk _ ih => exact Ev.scFunc hsc hk (ih _ hag)
  | scCls hsc hk hp _ ih => exact Ev.scCls hsc hk hp (ih _ hag)

theorem Ev.local {g W R c o} (h : Ev g W R c o) (R' : List Nat)
    (hag : ∀ l ∈ W, R.contains l = R'.contains l) : Ev g W R' c o :=
  h.mono (fun _ hl => hl) R' hag

theorem Ev.weaken {g W W' R c o} (h : Ev g W R c o) (hw : ∀ l ∈ W, l ∈ W') : Ev g W' R c o :=
  h.mono hw R fun _ _ => rfl

end SuppModel.Flow
