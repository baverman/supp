/-
  On a ranked graph (Rank.lean) the evaluator of Graph.lean answers, with fuel `Graph.rankFuel`.

  Measure of a call `flowNames R f`:   live(R) * (N + 1) + rank(f),   N = #flows ≥ every rank,
  live(R) = number of loop edges of the graph whose loop is not in R.  Every call of `flowNames`
  made from `flowNames R f` has a smaller measure: a `.flow q` predecessor and the final flow a
  root flow's scope chain leads to have a smaller rank under the same R; a loop edge `.loop l t`
  with l ∉ R is evaluated under l :: R, which lowers live(R) by at least one and may reset the
  rank to at most N.  Between two such calls at most `hopFuel` units of fuel are spent (one per
  function, one per predecessor of a join, one per class scope of a scope chain).

  COMPLETENESS of `Graph.ranked` (last section): if ANY rank is valid, the computed one is.  The
  relaxation only raises ranks, and the rank of i stays at most the number of flows whose given
  rank is smaller than i's (`Below`, `cnt`: no bound on the given rank is needed), hence ≤ #flows;
  each sweep but the last raises the sum of all ranks, which is bounded, so the iteration stops at
  a sweep that changes nothing before its fuel runs out; in such a sweep every single step changed
  nothing (steps are monotone), i.e. every rank inequality holds; the structural part of the check
  does not depend on the rank.
-/
import SuppModel.Flow.Rank
import SuppModel.Flow.LemmasFuel
namespace SuppModel.Flow

theorem validRankU_iff {g : Graph} {rk : Array Nat} :
    validRankU g rk = true ↔ ∀ fr ∈ g.flows, validFlowU g rk fr = true :=
  List.all_eq_true

theorem validRank_iff {g : Graph} {rk : Array Nat} : validRank g rk = true ↔
    ∀ fr ∈ g.flows, rankOf rk fr.id ≤ g.flows.length ∧ validFlowU g rk fr = true := by
  simp only [validRank, List.all_eq_true, validFlow, Bool.and_eq_true, decide_eq_true_eq]

theorem mem_flowDeps {g : Graph} {fr : FlowRec} {q : Nat} : q ∈ flowDeps g fr ↔
    Parent.flow q ∈ fr.parents ∨ (fr.parents = [] ∧ rootTarget g fr = some (some q)) := by
  unfold flowDeps
  cases fr.parents with
  | nil => rcases rootTarget g fr with _ | _ | q' <;> simp [eq_comm]
  | cons a rest =>
    simp only [List.mem_filterMap, reduceCtorEq, false_and, or_false]
    constructor
    · rintro ⟨p, hp, e⟩
      cases p with
      | flow q' => cases e; exact hp
      | loop l t => cases e
    · exact fun h => ⟨_, h, rfl⟩

theorem validFlowU_iff {g : Graph} {rk : Array Nat} {fr : FlowRec} : validFlowU g rk fr = true ↔
    (fr.parents = [] → (rootTarget g fr).isSome) ∧
    (∀ l t, Parent.loop l t ∈ fr.parents → (g.flow? t).isSome) ∧
    ∀ q ∈ flowDeps g fr, (g.flow? q).isSome ∧ rankOf rk q < rankOf rk fr.id := by
  simp only [mem_flowDeps]
  unfold validFlowU
  cases fr.parents with
  | nil => rcases rootTarget g fr with _ | _ | q <;> simp
  | cons a rest =>
    simp only [List.all_eq_true, reduceCtorEq, false_and, or_false, false_imp_iff, true_and]
    constructor
    · intro h
      exact ⟨fun l t hp => h _ hp, fun q hp => by simpa using h _ hp⟩
    · rintro ⟨h1, h2⟩ p hp
      cases p with
      | flow q => simpa using h2 q hp
      | loop l t => exact h1 l t hp

theorem rank_le {g : Graph} {rk : Array Nat} (hv : validRank g rk = true) {f : Nat}
    (hf : (g.flow? f).isSome) : rankOf rk f ≤ g.flows.length := by
  obtain ⟨fr, hfr⟩ := Option.isSome_iff_exists.mp hf
  exact flow?_id hfr ▸ (validRank_iff.mp hv fr (flow?_mem hfr)).1

def live (g : Graph) (R : List Nat) : Nat := (g.loopIds.filter (fun l => !R.contains l)).length

def measure (g : Graph) (rk : Array Nat) (R : List Nat) (f : Nat) : Nat :=
  live g R * (g.flows.length + 1) + rankOf rk f

theorem filter_length_lt {α} {l : List α} {p p' : α → Bool} (himp : ∀ x, p x = true → p' x = true)
    {a : α} (ha : a ∈ l) (h1 : p a = false) (h2 : p' a = true) :
    (l.filter p).length < (l.filter p').length := by
  have e : l.filter p = (l.filter p').filter p := by
    rw [List.filter_filter]
    exact List.filter_congr fun x _ => by cases hp : p x <;> simp [himp x, hp]
  rw [e]
  exact List.length_filter_lt_length_iff_exists.mpr ⟨a, List.mem_filter.mpr ⟨ha, h2⟩, by simp [h1]⟩

theorem live_cons {g : Graph} {R : List Nat} {l : Nat} (hl : l ∈ g.loopIds)
    (hR : R.contains l = false) : live g (l :: R) < live g R :=
  filter_length_lt (fun x h => by simp only [List.contains_cons, Bool.not_or, Bool.and_eq_true] at h; exact h.2)
    hl (by simp) (by rw [hR]; rfl)

theorem mem_loopIds {g : Graph} {f : Nat} {fr : FlowRec} (hf : g.flow? f = some fr) {l t : Nat}
    (hp : Parent.loop l t ∈ fr.parents) : l ∈ g.loopIds :=
  List.mem_flatMap.mpr ⟨fr, flow?_mem hf, List.mem_filterMap.mpr ⟨_, hp, rfl⟩⟩

theorem lex_lt {a a' r N : Nat} (ha : a < a') (hr : r ≤ N) (r' : Nat) :
    a * (N + 1) + r < a' * (N + 1) + r' := by
  have := Nat.mul_le_mul_right (N + 1) ha
  rw [Nat.succ_mul] at this
  omega

theorem le_sum_of_mem {l : List Nat} {a : Nat} (h : a ∈ l) : a ≤ l.sum := by
  induction l with
  | nil => cases h
  | cons b l ih =>
    rw [List.sum_cons]
    rcases List.mem_cons.mp h with rfl | h
    · omega
    · have := ih h; omega

theorem parents_le_hop {g : Graph} {f : Nat} {fr : FlowRec} (hf : g.flow? f = some fr) :
    fr.parents.length + g.scopes.length + 6 ≤ g.hopFuel :=
  Nat.add_le_add_right (Nat.add_le_add_right
    (le_sum_of_mem (List.mem_map_of_mem (f := (·.parents.length)) (flow?_mem hf))) _) _

theorem predNames_mono (g : Graph) {n n' : Nat} (hn : n ≤ n') (R : List Nat) (p : Parent) :
    Le (predNames g n R p) (predNames g n' R p) := by
  cases p with
  | flow q => exact (flowNames_mono g hn R q).map some
  | loop l t => exact loopNames_mono g hn R l t

theorem scopeNames_isSome {g : Graph} {R : List Nat} {m : Nat} {tgt : Option Nat}
    (hq : ∀ q, tgt = some q → (flowNames g m R q).isSome) (k s : Nat)
    (h : scopeTarget g k s = some tgt) : (scopeNames g (m + k) R s).isSome := by
  induction k generalizing s with
  | zero => cases h
  | succ k ih =>
    rw [scopeTarget] at h
    rw [← Nat.add_assoc, scopeNames_succ]
    cases hsc : g.scope? s with
    | none => simp [hsc] at h
    | some sc =>
      simp only [hsc, Option.bind_some] at h ⊢
      have hfin : some (some sc.final) = some tgt → (flowNames g (m + k) R sc.final).isSome :=
        fun e => (flowNames_mono g (Nat.le_add_right m k) R _).isSome (hq _ (Option.some.inj e).symm)
      cases hk : sc.kind with
      | builtin => rfl
      | module => rw [hk] at h; rw [Option.isSome_map]; exact hfin h
      | func => rw [hk] at h; exact hfin h
      | cls =>
        rw [hk] at h
        cases hp : sc.parent with
        | none => simp [hp] at h
        | some p => simp only [hp] at h; exact ih p h

theorem parentTables_isSome {g : Graph} {R : List Nat} {m : Nat} (ps : List Parent)
    (h : ∀ p ∈ ps, (predNames g m R p).isSome) : (parentTables g (m + ps.length + 1) R ps).isSome := by
  induction ps with
  | nil => rw [parentTables_nil]; rfl
  | cons p rest ih =>
    obtain ⟨r, hr⟩ := Option.isSome_iff_exists.mp
      ((predNames_mono g (Nat.le_add_right m (rest.length + 1)) R p).isSome (h p List.mem_cons_self))
    obtain ⟨ts, hts⟩ := Option.isSome_iff_exists.mp (ih fun p hp => h p (List.mem_cons_of_mem _ hp))
    rw [List.length_cons, parentTables_cons, hr, ← Nat.add_assoc, hts]
    rfl

theorem flowNames_hop {g : Graph} {rk : Array Nat} (hv : validRank g rk = true) {f : Nat}
    {fr : FlowRec} {R : List Nat} (hf : g.flow? f = some fr) (m : Nat)
    (sub : ∀ q R', (g.flow? q).isSome → measure g rk R' q < measure g rk R f →
      (flowNames g m R' q).isSome) :
    (flowNames g (m + g.hopFuel) R f).isSome := by
  have hhop := parents_le_hop hf
  obtain ⟨hroot, hloops, hdeps⟩ := validFlowU_iff.mp (validRank_iff.mp hv fr (flow?_mem hf)).2
  rw [flow?_id hf] at hdeps
  have hdep : ∀ q ∈ flowDeps g fr, (flowNames g m R q).isSome :=
    fun q hq => sub q R (hdeps q hq).1 (Nat.add_lt_add_left (hdeps q hq).2 _)
  have hpred : ∀ p ∈ fr.parents, (predNames g (m + 1) R p).isSome := by
    intro p hp
    cases p with
    | flow q =>
      rw [predNames, Option.isSome_map]
      exact (flowNames_mono g (Nat.le_succ m) R q).isSome (hdep q (mem_flowDeps.mpr (Or.inl hp)))
    | loop l t =>
      rw [predNames, loopNames_succ]
      split
      · rfl
      · next hc =>
        rw [Option.isSome_map]
        exact sub t (l :: R) (hloops l t hp)
          (lex_lt (live_cons (mem_loopIds hf hp) (Bool.eq_false_iff.mpr hc)) (rank_le hv (hloops l t hp)) _)
  suffices h : ∃ k, k + 1 ≤ m + g.hopFuel ∧ (parentNames g k R fr).isSome by
    obtain ⟨k, hk, h⟩ := h
    refine (flowNames_mono g hk R f).isSome ?_
    rw [flowNames_succ, hf, Option.bind_some, Option.isSome_map]
    exact h
  match hps : fr.parents with
  | [] =>
    refine ⟨m + (g.scopes.length + 1) + 1, by omega, ?_⟩
    rw [parentNames_nil hps]
    obtain ⟨tgt, htgt⟩ := Option.isSome_iff_exists.mp (hroot hps)
    have hq : ∀ q, tgt = some q → (flowNames g m R q).isSome :=
      fun q e => hdep q (mem_flowDeps.mpr (Or.inr ⟨hps, e ▸ htgt⟩))
    unfold rootTarget at htgt
    cases hsc : g.scope? fr.scope with
    | none => simp [hsc] at htgt
    | some sc =>
      simp only [hsc, Option.bind_some] at htgt ⊢
      cases hp : sc.parent with
      | none => rfl
      | some ps =>
        simp only [hp] at htgt ⊢
        rw [Option.isSome_map]
        exact scopeNames_isSome hq _ ps htgt
  | [p] =>
    refine ⟨m + 1 + 1, by omega, ?_⟩
    rw [parentNames_single hps, Option.isSome_map]
    exact hpred p (hps ▸ List.mem_cons_self)
  | a :: b :: rest =>
    refine ⟨m + 1 + fr.parents.length + 1 + 1, by omega, ?_⟩
    rw [parentNames_many hps, Option.isSome_map]
    exact parentTables_isSome _ hpred

theorem flowNames_total_aux {g : Graph} {rk : Array Nat} (hv : validRank g rk = true) :
    ∀ μ f R, (g.flow? f).isSome → measure g rk R f < μ →
      (flowNames g (g.hopFuel * μ) R f).isSome := by
  intro μ
  induction μ with
  | zero => intro f R _ h; cases h
  | succ μ ih =>
    intro f R hf hμ
    obtain ⟨fr, hfr⟩ := Option.isSome_iff_exists.mp hf
    exact flowNames_hop hv hfr _ fun q R' hq hlt => ih q R' hq (Nat.lt_of_lt_of_le hlt (Nat.le_of_lt_succ hμ))

theorem flowNames_total {g : Graph} {rk : Array Nat} (hv : validRank g rk = true) {f : Nat}
    (hf : (g.flow? f).isSome) (R : List Nat) {n : Nat} (hn : g.rankFuel ≤ n) :
    (flowNames g n R f).isSome :=
  (flowNames_mono g hn R f).isSome (flowNames_total_aux hv _ f R hf (lex_lt (Nat.lt_succ_of_le (List.length_filter_le ..)) (rank_le hv hf) 0))

theorem namesAt_total {g : Graph} {rk : Array Nat} (hv : validRank g rk = true) {f : Nat}
    (hf : (g.flow? f).isSome) (R : List Nat) (pos : Pos) {n : Nat} (hn : g.rankFuel ≤ n) :
    (namesAt g n R f pos).isSome :=
  namesAt_isSome.trans (flowNames_total hv hf R (Nat.le_succ_of_le hn))

theorem lookupAt_total {g : Graph} {rk : Array Nat} (hv : validRank g rk = true) {f : Nat}
    (hf : (g.flow? f).isSome) (pos : Pos) (x : String) {n : Nat} (hn : g.rankFuel ≤ n) :
    (lookupAt g n f pos x).isSome :=
  Option.isSome_map.trans (namesAt_total hv hf [] pos hn)

theorem rankOf_set (rk : Array Nat) (j v i : Nat) :
    rankOf (rk.setIfInBounds j v) i = if j = i ∧ j < rk.size then v else rankOf rk i := by
  unfold rankOf
  rw [Array.getD_eq_getD_getElem?, Array.getD_eq_getD_getElem?, Array.getElem?_setIfInBounds]
  by_cases h1 : j = i
  · subst h1
    by_cases h2 : j < rk.size
    · simp only [h2, and_self, if_true, Option.getD_some]
    · simp only [h2, and_false, if_false, if_true, Array.getElem?_eq_none (Nat.le_of_not_lt h2)]
  · simp only [h1, false_and, if_false]

def RLe (a b : Array Nat) : Prop := a.size = b.size ∧ ∀ i, rankOf a i ≤ rankOf b i

theorem RLe.refl (a : Array Nat) : RLe a a := ⟨rfl, fun _ => Nat.le_refl _⟩
theorem RLe.trans {a b c : Array Nat} (h1 : RLe a b) (h2 : RLe b c) : RLe a c :=
  ⟨h1.1.trans h2.1, fun i => Nat.le_trans (h1.2 i) (h2.2 i)⟩

theorem rankOf_eq_getElem {a : Array Nat} {i : Nat} (h : i < a.size) : rankOf a i = a[i] := by
  unfold rankOf; simp [h]

theorem list_sum_pointwise (l1 l2 : List Nat) (hl : l1.length = l2.length)
    (h : ∀ i, l1.getD i 0 ≤ l2.getD i 0) : l1.sum ≤ l2.sum ∧ (l2.sum ≤ l1.sum → l1 = l2) := by
  induction l1 generalizing l2 with
  | nil => cases l2 with
    | nil => exact ⟨Nat.le_refl _, fun _ => rfl⟩
    | cons _ _ => cases hl
  | cons a l1 ih => cases l2 with
    | nil => cases hl
    | cons b l2 =>
      have h0 : a ≤ b := h 0
      obtain ⟨i1, i2⟩ := ih l2 (Nat.succ.inj hl) fun i => h (i + 1)
      rw [List.sum_cons, List.sum_cons]
      refine ⟨by omega, fun hge => ?_⟩
      rw [i2 (by omega), show a = b by omega]

theorem list_sum_le_bound (N : Nat) (l : List Nat) (h : ∀ i, l.getD i 0 ≤ N) : l.sum ≤ l.length * N := by
  induction l with
  | nil => exact Nat.zero_le _
  | cons a l ih =>
    have h0 : a ≤ N := h 0
    have := ih fun i => h (i + 1)
    rw [List.sum_cons, List.length_cons, Nat.succ_mul]
    omega

def rsum (a : Array Nat) : Nat := a.toList.sum

theorem rankOf_toList (a : Array Nat) (i : Nat) : rankOf a i = a.toList.getD i 0 := by
  simp [rankOf]

theorem RLe.rsum {a b : Array Nat} (h : RLe a b) : rsum a ≤ rsum b ∧ (rsum b ≤ rsum a → a = b) := by
  have := list_sum_pointwise a.toList b.toList (by simpa using h.1)
    (fun i => by rw [← rankOf_toList, ← rankOf_toList]; exact h.2 i)
  exact ⟨this.1, fun hge => Array.toList_inj.mp (this.2 hge)⟩

theorem RLe.antisymm {a b : Array Nat} (h1 : RLe a b) (h2 : RLe b a) : a = b :=
  h1.rsum.2 h2.rsum.1

theorem foldl_max_le_iff (f : Nat → Nat) (l : List Nat) (m0 B : Nat) :
    l.foldl (fun m q => max m (f q)) m0 ≤ B ↔ m0 ≤ B ∧ ∀ q ∈ l, f q ≤ B := by
  induction l generalizing m0 with
  | nil => simp
  | cons a l ih => rw [List.foldl_cons, ih, Nat.max_le, List.forall_mem_cons, and_assoc]

/-- the new value a step writes -/
def stepVal (g : Graph) (rk : Array Nat) (fr : FlowRec) : Nat :=
  (flowDeps g fr).foldl (fun m q => max m (rankOf rk q + 1)) (rankOf rk fr.id)

theorem stepVal_le_iff {g : Graph} {rk : Array Nat} {fr : FlowRec} {B : Nat} : stepVal g rk fr ≤ B ↔
    rankOf rk fr.id ≤ B ∧ ∀ q ∈ flowDeps g fr, rankOf rk q + 1 ≤ B :=
  foldl_max_le_iff _ _ _ _

theorem rankOf_rankStep (g : Graph) (rk : Array Nat) (fr : FlowRec) (i : Nat) :
    rankOf (rankStep g rk fr) i =
      if fr.id = i ∧ fr.id < rk.size then stepVal g rk fr else rankOf rk i :=
  rankOf_set ..

theorem rankStep_ge (g : Graph) (rk : Array Nat) (fr : FlowRec) : RLe rk (rankStep g rk fr) := by
  refine ⟨(Array.size_setIfInBounds ..).symm, fun i => ?_⟩
  rw [rankOf_rankStep]
  split
  · next h => exact h.1 ▸ (stepVal_le_iff.mp (Nat.le_refl _)).1
  · exact Nat.le_refl _

theorem foldl_step_ge (g : Graph) (l : List FlowRec) (rk : Array Nat) :
    RLe rk (l.foldl (rankStep g) rk) :=
  List.foldlRecOn (motive := RLe rk) l _ (RLe.refl rk) fun rk' h fr _ => h.trans (rankStep_ge g rk' fr)

theorem steps_of_fixpoint (g : Graph) (l : List FlowRec) (rk : Array Nat)
    (h : l.foldl (rankStep g) rk = rk) : ∀ fr ∈ l, rankStep g rk fr = rk := by
  induction l with
  | nil => intro fr hfr; cases hfr
  | cons a l ih =>
    rw [List.foldl_cons] at h
    have hge := foldl_step_ge g l (rankStep g rk a)
    rw [h] at hge
    have h1 : rankStep g rk a = rk := (RLe.antisymm (rankStep_ge g rk a) hge).symm
    rw [h1] at h
    exact List.forall_mem_cons.mpr ⟨h1, ih h⟩

/-- how many flows have a strictly smaller rank (for the given decreasing rank `rv`) than id i:
    a bound for the longest-path rank of i -/
def cnt (g : Graph) (rv : Array Nat) (i : Nat) : Nat :=
  (g.flows.filter (fun x => decide (rankOf rv x.id < rankOf rv i))).length

theorem cnt_le (g : Graph) (rv : Array Nat) (i : Nat) : cnt g rv i ≤ g.flows.length :=
  List.length_filter_le _ _

theorem cnt_lt {g : Graph} {rv : Array Nat} {q i : Nat} (hq : (g.flow? q).isSome)
    (hlt : rankOf rv q < rankOf rv i) : cnt g rv q < cnt g rv i := by
  obtain ⟨fq, hfq⟩ := Option.isSome_iff_exists.mp hq
  rw [← flow?_id hfq] at hlt ⊢
  exact filter_length_lt (fun x hx => decide_eq_true (Nat.lt_trans (of_decide_eq_true hx) hlt))
    (flow?_mem hfq) (decide_eq_false (Nat.lt_irrefl _)) (decide_eq_true hlt)

def Below (g : Graph) (rv rk : Array Nat) : Prop := ∀ i, rankOf rk i ≤ cnt g rv i

theorem below_step {g : Graph} {rv rk : Array Nat} (hv : validRankU g rv = true) {fr : FlowRec}
    (hfr : fr ∈ g.flows) (hb : Below g rv rk) : Below g rv (rankStep g rk fr) := by
  obtain ⟨-, -, hdeps⟩ := validFlowU_iff.mp (validRankU_iff.mp hv fr hfr)
  intro i
  rw [rankOf_rankStep]
  split
  · next h =>
    exact h.1 ▸ stepVal_le_iff.mpr ⟨hb fr.id, fun q hq =>
      Nat.le_trans (Nat.succ_le_succ (hb q)) (cnt_lt (hdeps q hq).1 (hdeps q hq).2)⟩
  · exact hb i

theorem Below.le {g : Graph} {rv a : Array Nat} (h : Below g rv a) (i : Nat) :
    rankOf a i ≤ g.flows.length :=
  Nat.le_trans (h i) (cnt_le g rv i)

theorem rsum_le_bound {g : Graph} {rv a : Array Nat} (h : Below g rv a) :
    rsum a ≤ a.size * g.flows.length := by
  have := list_sum_le_bound g.flows.length a.toList (fun i => rankOf_toList a i ▸ h.le i)
  rwa [Array.length_toList] at this

theorem no_overflow {g : Graph} {rv a : Array Nat} (h : Below g rv a) :
    a.any (fun r => decide (g.flows.length < r)) = false :=
  Array.any_eq_false.mpr fun i hi => by
    rw [decide_eq_true_eq, ← rankOf_eq_getElem hi]
    exact Nat.not_lt.mpr (h.le i)

/-- the iteration ends at a fixpoint that is still below the valid rank -/
theorem rankIter_fix {g : Graph} {rv : Array Nat} (hv : validRankU g rv = true) :
    ∀ k rk, Below g rv rk → rk.size * g.flows.length - rsum rk < k →
      rankRound g (rankIter g k rk) = rankIter g k rk ∧ Below g rv (rankIter g k rk) ∧
        (rankIter g k rk).size = rk.size := by
  intro k
  induction k with
  | zero => intro rk _ h; omega
  | succ k ih =>
    intro rk hb hk
    rw [rankIter]
    have hb' : Below g rv (rankRound g rk) :=
      List.foldlRecOn g.flows _ hb fun rk h fr hfr => below_step hv hfr h
    have hge : RLe rk (rankRound g rk) := foldl_step_ge g g.flows rk
    simp only [no_overflow hb', Bool.or_false, beq_iff_eq]
    split
    · next he => exact ⟨by rw [he, he], hb', hge.1.symm⟩
    · next he =>
      have h1 : ¬ rsum (rankRound g rk) ≤ rsum rk := fun hle => he (hge.rsum.2 hle).symm
      have h2 := rsum_le_bound hb'
      obtain ⟨r1, r2, r3⟩ := ih _ hb' (by rw [← hge.1] at h2 ⊢; omega)
      exact ⟨r1, r2, r3.trans hge.1.symm⟩

theorem rankOf_replicate (n i : Nat) : rankOf (Array.replicate n 0) i = 0 := by
  unfold rankOf
  rw [Array.getD_eq_getD_getElem?, Array.getElem?_replicate]
  split <;> rfl

theorem ranked_of_validRankU (g : Graph) (rk : Array Nat) (h : validRankU g rk = true) :
    g.ranked = true := by
  unfold Graph.ranked computeRank
  simp only []
  generalize hN : (g.flows.map (·.id)).foldl max 0 + 1 = N
  obtain ⟨hfix, hbelow, hsize⟩ := rankIter_fix h (N * g.flows.length + 1) (Array.replicate N 0)
    (fun i => by rw [rankOf_replicate]; exact Nat.zero_le _)
    (by rw [Array.size_replicate]; omega)
  rw [Array.size_replicate] at hsize
  generalize rankIter g _ _ = rc at hfix hbelow hsize
  refine validRank_iff.mpr fun fr hfr => ⟨hbelow.le fr.id, ?_⟩
  obtain ⟨h1, h2, h3⟩ := validFlowU_iff.mp (validRankU_iff.mp h fr hfr)
  refine validFlowU_iff.mpr ⟨h1, h2, fun q hq => ⟨(h3 q hq).1, ?_⟩⟩
  -- the step at `fr` changed nothing, so the rank of `fr` is already above that of `q`
  have hstep := congrArg (rankOf · fr.id) (steps_of_fixpoint g g.flows rc hfix fr hfr)
  have hin : fr.id < rc.size := by
    have : fr.id ≤ (g.flows.map (·.id)).foldl max 0 :=
      ((foldl_max_le_iff (fun x => x) _ 0 _).mp (Nat.le_refl _)).2 fr.id (List.mem_map_of_mem hfr)
    omega
  simp only [rankOf_rankStep, true_and, if_pos hin] at hstep
  exact (stepVal_le_iff.mp (Nat.le_of_eq hstep)).2 q hq

theorem validRankU_of_validRank {g : Graph} {rk : Array Nat} (h : validRank g rk = true) :
    validRankU g rk = true :=
  validRankU_iff.mpr fun fr hfr => (validRank_iff.mp h fr hfr).2

theorem ranked_of_validRank (g : Graph) (rk : Array Nat) (h : validRank g rk = true) :
    g.ranked = true :=
  ranked_of_validRankU g rk (validRankU_of_validRank h)

end SuppModel.Flow
