import SuppModel.Flow.LemmasHistory
import SuppModel.Flow.LemmasRank
