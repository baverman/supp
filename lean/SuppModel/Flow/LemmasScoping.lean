import SuppModel.Flow.Layouts
import SuppModel.Flow.Ownership
