/-
  "Some fuel suffices" predicates for the pure evaluator of Graph.lean; they hide the fuel
  bookkeeping (take the maximum of the fuels of the premises, plus one) from the simulation proofs.
-/
import SuppModel.Flow.LemmasFuel
namespace SuppModel.Flow

def EvFl (g : Graph) (R : List Nat) (f : Nat) (t : Tbl) : Prop := ∃ n, flowNames g n R f = some t
def EvPn (g : Graph) (R : List Nat) (fr : FlowRec) (t : Tbl) : Prop := ∃ n, parentNames g n R fr = some t
def EvPt (g : Graph) (R : List Nat) (ps : List Parent) (ts : List Tbl) : Prop :=
  ∃ n, parentTables g n R ps = some ts
def EvLp (g : Graph) (R : List Nat) (l tg : Nat) (r : Option Tbl) : Prop :=
  ∃ n, loopNames g n R l tg = some r
def EvSc (g : Graph) (R : List Nat) (s : Nat) (t : Tbl) : Prop := ∃ n, scopeNames g n R s = some t

theorem EvLp.resolved {g R l tg t} (h : R.contains l = false) (h1 : EvFl g (l :: R) tg t) :
    EvLp g R l tg (some t) := by
  obtain ⟨n, hn⟩ := h1
  exact ⟨n + 1, by rw [loopNames_succ, if_neg (by rw [h]; exact Bool.false_ne_true), hn]; rfl⟩

theorem EvSc.builtin {g R s sc} (hsc : g.scope? s = some sc) (hk : sc.kind = .builtin) :
    EvSc g R s (builtinTable g) :=
  ⟨1, by rw [scopeNames_succ, hsc, Option.bind_some]; simp only [hk]⟩

theorem EvSc.module {g R s sc t} (hsc : g.scope? s = some sc) (hk : sc.kind = .module)
    (h : EvFl g R sc.final t) : EvSc g R s (t ++ globalsTable sc) := by
  obtain ⟨n, hn⟩ := h
  exact ⟨n + 1, by rw [scopeNames_succ, hsc, Option.bind_some]; simp only [hk, hn, Option.map_some]⟩

end SuppModel.Flow
