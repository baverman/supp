/-
  Same-fuel completeness of the memoised evaluator (Memo.lean) and of the exact evaluator
  (Checked.lean, `strict = false`) w.r.t. the pure one (Graph.lean).

  A memoised evaluator walks the call tree of the pure evaluator for the same fuel and the same
  set of loops being resolved (the loop ids of `m.resolving` ARE the `R` of the pure evaluator),
  pruned wherever a cache entry is reused.  WHICH calls are made depends on the graph and on R
  only, never on the tables; a pruned call needs no fuel at all, every other call has exactly the
  fuel the pure evaluator has at that node; the pure evaluator answers `some` only if every call
  of its tree does.  So a memoised evaluator that never gives up (`hit? false` never does) never
  runs out of fuel where the pure one does not.  Only `resolving` has to be tracked: it is
  restored by every call.  (Nothing is claimed here about WHICH table is returned — see
  LemmasTaggedSim.lean / Witness/C04.lean.)
-/
import SuppModel.Flow.LemmasFuel
import SuppModel.Flow.LemmasMemoState
namespace SuppModel.Flow

/-- the memoised evaluator answers too, and leaves `resolving` as it found it; `σ`, `res`: `Memo`
    or `CMemo` with its `resolving` -/
abbrev Tot {σ α β} (res : σ → List Res) (m : σ) (o : Option α) (o' : Option (σ × β)) : Prop :=
  Rel (fun _ r => res r.1 = res m) o o'

/-- the five evaluators of one family (`fl'` … `sc'`, at fuel `n`) answer wherever the pure ones do -/
structure Total {σ α β γ} (res : σ → List Res) (g : Graph) (n : Nat)
    (fl' : σ → Nat → Option (σ × α)) (pn' : σ → FlowRec → Option (σ × α))
    (pt' : σ → List Parent → Option (σ × β)) (lp' : σ → Nat → Nat → Option (σ × γ))
    (sc' : σ → Nat → Option (σ × α)) : Prop where
  fl : ∀ m f, Tot res m (flowNames g n (loops (res m)) f) (fl' m f)
  pn : ∀ m fr, Tot res m (parentNames g n (loops (res m)) fr) (pn' m fr)
  pt : ∀ m ps, Tot res m (parentTables g n (loops (res m)) ps) (pt' m ps)
  lp : ∀ m l tg, Tot res m (loopNames g n (loops (res m)) l tg) (lp' m l tg)
  sc : ∀ m s, Tot res m (scopeNames g n (loops (res m)) s) (sc' m s)

theorem total (g : Graph) (n : Nat) : Total Memo.resolving g n (mFlowNames g n) (mParentNames g n)
    (mParentTables g n) (mLoopNames g n) (mScopeNames g n) := by
  induction n with
  | zero =>
    constructor <;> intros <;> simp only [flowNames, parentNames, parentTables, loopNames, scopeNames] <;>
      exact Rel.none_left
  | succ n ih =>
    constructor
    · intro m f
      rw [flowNames, mFlowNames]
      cases (m.slot? (.names f)).filter m.usable with
      | some e => exact Rel.pure_right fun _ => rfl
      | none =>
        cases g.flow? f with
        | none => exact Rel.none_left
        | some fr => exact (ih.pn m fr).bind fun _ _ h => Rel.pure h
    · intro m fr
      rw [parentNames, mParentNames]
      cases (m.slot? (.pnames fr.id)).filter m.usable with
      | some e => exact Rel.pure_right fun _ => rfl
      | none =>
        refine Rel.bind_right ?_ fun _ _ h => Rel.pure h
        generalize fr.parents = ps
        match ps with
        | [] =>
          cases g.scope? fr.scope with
          | none => exact Rel.none_left
          | some sc =>
            dsimp only
            cases sc.parent with
            | none => exact Rel.pure_right fun _ => rfl
            | some ps =>
              refine (ih.sc m ps).bind fun _ _ h => ?_
              cases sc.kind <;> exact Rel.pure h
        | [Parent.flow p] => exact ih.fl m p
        | [Parent.loop l tg] => exact (ih.lp m l tg).bind fun _ _ h => Rel.pure h
        | _ :: _ :: _ => simp only []; exact (ih.pt m _).bind fun _ _ h => Rel.pure h
    · intro m ps
      match ps with
      | [] => rw [parentTables, mParentTables]; exact Rel.pure_right fun _ => rfl
      | Parent.flow p :: rest =>
        rw [parentTables, mParentTables]
        refine (ih.fl m p).bind fun _ r h => ?_
        rw [← h]
        exact (ih.pt r.1 rest).bind fun _ _ h' => Rel.pure h'
      | Parent.loop l tg :: rest =>
        rw [parentTables, mParentTables]
        refine (ih.lp m l tg).bind fun _ r h => ?_
        rw [← h]
        exact (ih.pt r.1 rest).bind fun _ _ h' => Rel.pure h'
    · intro m l tg
      rw [loopNames, mLoopNames]
      cases hip : m.inProgress? l with
      | some k => exact Rel.pure_right fun _ => rfl
      | none =>
        have hno := inProgress_none hip
        rw [if_neg (by simpa using not_mem_loops hno)]
        cases (m.slot? (.loop l tg)).filter m.usable with
        | some e => exact Rel.pure_right fun _ => rfl
        | none =>
          refine (ih.fl { m with started := m.started + 1, resolving := (l, m.started + 1) :: m.resolving }
            tg).bind fun _ r h => Rel.pure ?_
          show r.1.resolving.filter _ = _
          rw [h]
          exact filter_push hno
    · intro m s
      rw [scopeNames, mScopeNames]
      cases g.scope? s with
      | none => exact Rel.none_left
      | some sc =>
        dsimp only
        cases sc.kind with
        | builtin => exact Rel.pure_right fun _ => rfl
        | module => exact (ih.fl m sc.final).bind fun _ _ h => Rel.pure h
        | func => exact ih.fl m sc.final
        | cls =>
          dsimp only
          cases sc.parent with
          | none => exact Rel.none_left
          | some p => exact ih.sc m p

theorem mNamesAt_total (g : Graph) (n : Nat) (m : Memo) (f : Nat) (pos : Pos) :
    Tot Memo.resolving m (namesAt g n (loops m.resolving) f pos) (mNamesAt g n m f pos) := by
  unfold namesAt mNamesAt
  cases g.flow? f with
  | none => exact Rel.none_left
  | some fr => exact ((total g n).pn m fr).bind fun _ _ h => Rel.pure h

theorem ctotal (g : Graph) (n : Nat) : Total CMemo.resolving g n (cFlowNames false g n)
    (cParentNames false g n) (cParentTables false g n) (cLoopNames false g n) (cScopeNames false g n) := by
  induction n with
  | zero =>
    constructor <;> intros <;> simp only [flowNames, parentNames, parentTables, loopNames, scopeNames] <;>
      exact Rel.none_left
  | succ n ih =>
    constructor
    · intro m f
      rw [flowNames, cFlowNames, hit?_false]
      generalize List.find? _ _ = oe
      cases oe with
      | some e => exact Rel.pure_right fun _ => rfl
      | none =>
        cases g.flow? f with
        | none => exact Rel.none_left
        | some fr => exact (ih.pn m fr).bind fun _ _ h => Rel.pure h
    · intro m fr
      rw [parentNames, cParentNames, hit?_false]
      generalize List.find? _ _ = oe
      cases oe with
      | some e => exact Rel.pure_right fun _ => rfl
      | none =>
        refine Rel.bind_right ?_ fun _ _ h => Rel.pure h
        generalize fr.parents = ps
        match ps with
        | [] =>
          cases g.scope? fr.scope with
          | none => exact Rel.none_left
          | some sc =>
            dsimp only
            cases sc.parent with
            | none => exact Rel.pure_right fun _ => rfl
            | some ps =>
              refine (ih.sc m ps).bind fun _ _ h => ?_
              cases sc.kind <;> exact Rel.pure h
        | [Parent.flow p] => exact ih.fl m p
        | [Parent.loop l tg] => exact (ih.lp m l tg).bind fun _ _ h => Rel.pure h
        | _ :: _ :: _ => simp only []; exact (ih.pt m _).bind fun _ _ h => Rel.pure h
    · intro m ps
      match ps with
      | [] => rw [parentTables, cParentTables]; exact Rel.pure_right fun _ => rfl
      | Parent.flow p :: rest =>
        rw [parentTables, cParentTables]
        refine (ih.fl m p).bind fun _ r h => ?_
        rw [← h]
        exact (ih.pt r.1 rest).bind fun _ _ h' => Rel.pure h'
      | Parent.loop l tg :: rest =>
        rw [parentTables, cParentTables]
        refine (ih.lp m l tg).bind fun _ r h => ?_
        rw [← h]
        exact (ih.pt r.1 rest).bind fun _ _ h' => Rel.pure h'
    · intro m l tg
      rw [loopNames, cLoopNames]
      cases hip : m.inProgress? l with
      | some k => exact Rel.pure_right fun _ => rfl
      | none =>
        have hno := inProgress_none hip
        rw [if_neg (by simpa using not_mem_loops hno), hit?_false]
        generalize List.find? _ _ = oe
        cases oe with
        | some e => exact Rel.pure_right fun _ => rfl
        | none =>
          refine (ih.fl { m with started := m.started + 1, resolving := (l, m.started + 1) :: m.resolving }
            tg).bind fun _ r h => Rel.pure ?_
          show r.1.resolving.filter _ = _
          rw [h]
          exact filter_push hno
    · intro m s
      rw [scopeNames, cScopeNames]
      cases g.scope? s with
      | none => exact Rel.none_left
      | some sc =>
        dsimp only
        cases sc.kind with
        | builtin => exact Rel.pure_right fun _ => rfl
        | module => exact (ih.fl m sc.final).bind fun _ _ h => Rel.pure h
        | func => exact ih.fl m sc.final
        | cls =>
          dsimp only
          cases sc.parent with
          | none => exact Rel.none_left
          | some p => exact ih.sc m p

theorem cNamesAt_total (g : Graph) (n : Nat) (m : CMemo) (f : Nat) (pos : Pos) :
    Tot CMemo.resolving m (namesAt g n (loops m.resolving) f pos) (cNamesAt false g n m f pos) := by
  unfold namesAt cNamesAt
  cases g.flow? f with
  | none => exact Rel.none_left
  | some fr => exact ((ctotal g n).pn m fr).bind fun _ _ h => Rel.pure h

end SuppModel.Flow
