/-
  The checked evaluator of Checked.lean with `strict = true` is Memo.lean's evaluator, except that
  it may give up: whenever it answers, Memo.lean's evaluator, started from the same state (forgetting `used`),
  gives the same table and the same deps, and reaches the same state.
-/
import SuppModel.Flow.LemmasFuel
import SuppModel.Flow.LemmasMemoState
namespace SuppModel.Flow

def eraseRet {α} (r : CMemo × α × Deps × List Nat) : Memo × α × Deps := (r.1.erase, r.2.1, r.2.2.1)

abbrev Erased {α} (o : Option (CMemo × α × Deps × List Nat)) (o' : Option (Memo × α × Deps)) : Prop :=
  Rel (fun r r' => r' = eraseRet r) o o'

structure LeM (g : Graph) (n : Nat) : Prop where
  fl : ∀ (m : CMemo) f, Erased (cFlowNames true g n m f) (mFlowNames g n m.erase f)
  pn : ∀ (m : CMemo) fr, Erased (cParentNames true g n m fr) (mParentNames g n m.erase fr)
  pt : ∀ (m : CMemo) ps, Erased (cParentTables true g n m ps) (mParentTables g n m.erase ps)
  lp : ∀ (m : CMemo) l tg, Erased (cLoopNames true g n m l tg) (mLoopNames g n m.erase l tg)
  sc : ∀ (m : CMemo) s, Erased (cScopeNames true g n m s) (mScopeNames g n m.erase s)

/-- the lookups of the two evaluators: the checked one reuses what Memo.lean's reuses, or gives up -/
theorem Erased.hit {α} {m : CMemo} {k : Key} {w : Tbl → α} {X : Option (CMemo × α × Deps × List Nat)}
    {X' : Option (Memo × α × Deps)} (h : Erased X X') :
    Erased
      (match m.hit? true k with
        | none => none
        | some (some e) => some (m, w e.tbl, e.deps, e.used)
        | some none => X)
      (match (m.erase.slot? k).filter m.erase.usable with
        | some e => some (m.erase, w e.tbl, e.deps)
        | none => X') := by
  rw [erase_filter, hit?_true]
  cases (m.slot? k).filter m.usable with
  | none => exact h
  | some e =>
    dsimp only
    by_cases hs : m.safe e = true
    · rw [if_pos hs]; exact Rel.pure (by rfl)
    · rw [if_neg hs]; exact Rel.none_left

theorem leM (g : Graph) : ∀ n, LeM g n := by
  intro n
  induction n with
  | zero =>
    constructor <;> intros <;>
      simp only [cFlowNames, cParentNames, cParentTables, cLoopNames, cScopeNames] <;> exact Rel.none_left
  | succ n ih =>
    constructor
    · intro m f
      rw [cFlowNames, mFlowNames]
      refine Erased.hit (w := id) ?_
      cases g.flow? f with
      | none => exact Rel.none_left
      | some fr => exact (ih.pn m fr).bind_map fun _ => Rel.pure (by rfl)
    · intro m fr
      rw [cParentNames, mParentNames]
      refine Erased.hit (w := id) (Rel.bind_map (F := eraseRet) ?_ fun _ => Rel.pure (by rfl))
      generalize fr.parents = ps
      match ps with
      | [] =>
        cases g.scope? fr.scope with
        | none => exact Rel.none_left
        | some sc =>
          dsimp only
          cases sc.parent with
          | none => exact Rel.pure (by rfl)
          | some ps =>
            refine (ih.sc m ps).bind_map fun _ => ?_
            cases sc.kind <;> exact Rel.pure (by rfl)
      | [Parent.flow p] => exact ih.fl m p
      | [Parent.loop l tg] => exact (ih.lp m l tg).bind_map fun _ => Rel.pure (by rfl)
      | _ :: _ :: _ => simp only []; exact (ih.pt m _).bind_map fun _ => Rel.pure (by rfl)
    · intro m ps
      match ps with
      | [] => rw [cParentTables, mParentTables]; exact Rel.pure (by rfl)
      | Parent.flow p :: rest =>
        rw [cParentTables, mParentTables]
        exact (ih.fl m p).bind_map fun r => (ih.pt r.1 rest).bind_map fun _ => Rel.pure (by rfl)
      | Parent.loop l tg :: rest =>
        rw [cParentTables, mParentTables]
        refine (ih.lp m l tg).bind_map fun r => (ih.pt r.1 rest).bind_map fun _ => ?_
        cases r.2.1 <;> exact Rel.pure (by rfl)
    · intro m l tg
      rw [cLoopNames, mLoopNames, show m.erase.inProgress? l = m.inProgress? l from rfl]
      cases m.inProgress? l with
      | some k => exact Rel.pure (by rfl)
      | none =>
        refine Erased.hit (w := some) ?_
        exact (ih.fl { m with started := m.started + 1, resolving := (l, m.started + 1) :: m.resolving }
          tg).bind_map fun _ => Rel.pure (by rfl)
    · intro m s
      rw [cScopeNames, mScopeNames]
      cases g.scope? s with
      | none => exact Rel.none_left
      | some sc =>
        dsimp only
        cases sc.kind with
        | builtin => exact Rel.pure (by rfl)
        | module => exact (ih.fl m sc.final).bind_map fun _ => Rel.pure (by rfl)
        | func => exact ih.fl m sc.final
        | cls =>
          dsimp only
          cases sc.parent with
          | none => exact Rel.none_left
          | some p => exact ih.sc m p

theorem cNamesAt_le (g : Graph) (n : Nat) {m m1 : CMemo} {f : Nat} {pos : Pos} {t : Tbl}
    (h : cNamesAt true g n m f pos = some (m1, t)) :
    mNamesAt g n m.erase f pos = some (m1.erase, t) := by
  suffices hr : Rel (fun r r' => r' = (r.1.erase, r.2)) (cNamesAt true g n m f pos)
      (mNamesAt g n m.erase f pos) by
    obtain ⟨_, h', rfl⟩ := hr _ h
    exact h'
  unfold cNamesAt mNamesAt
  cases g.flow? f with
  | none => exact Rel.none_left
  | some fr => exact ((leM g n).pn m fr).bind_map fun _ => Rel.pure (by rfl)

end SuppModel.Flow
