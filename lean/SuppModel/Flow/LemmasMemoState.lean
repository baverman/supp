/-
  Facts about the cache states of Memo.lean and Checked.lean that do not involve the evaluators.
-/
import SuppModel.Flow.Checked
namespace SuppModel.Flow

def loops (d : Deps) : List Nat := d.map Prod.fst

theorem mem_loops_of_mem {d : Deps} {r : Res} (h : r ∈ d) : r.1 ∈ loops d :=
  List.mem_map_of_mem h

theorem loops_cons (r : Res) (d : Deps) : loops (r :: d) = r.1 :: loops d := rfl

theorem not_mem_loops {rs : List Res} {l : Nat} (h : ∀ r ∈ rs, r.1 ≠ l) : l ∉ loops rs := by
  intro hl
  obtain ⟨r, hr, rfl⟩ := List.mem_map.mp hl
  exact h r hr rfl

/-! `inProgress?` is the same function of `resolving` for `Memo` and `CMemo` -/

theorem inProgress_some {rs : List Res} {l n : Nat}
    (h : (rs.find? (fun r => r.1 = l)).map Prod.snd = some n) : (l, n) ∈ rs := by
  obtain ⟨r, hr, rfl⟩ := Option.map_eq_some_iff.mp h
  have h2 : r.1 = l := by simpa using List.find?_some hr
  exact h2 ▸ List.mem_of_find?_eq_some hr

theorem inProgress_none {rs : List Res} {l : Nat}
    (h : (rs.find? (fun r => r.1 = l)).map Prod.snd = none) : ∀ r ∈ rs, r.1 ≠ l := by
  intro r hr
  simpa using List.find?_eq_none.mp (Option.map_eq_none_iff.mp h) r hr

/-- ending the resolution of `l` undoes its start, if `l` was not in progress before -/
theorem filter_push {rs : List Res} {l n : Nat} (h : ∀ r ∈ rs, r.1 ≠ l) :
    ((l, n) :: rs).filter (fun r => r.1 ≠ l) = rs := by
  rw [List.filter_cons_of_neg (by simp), List.filter_eq_self]
  intro r hr
  simpa using h r hr

/-- the `R` of the pure evaluator -/
def Memo.loops (m : Memo) : List Nat := m.resolving.map Prod.fst

theorem Memo.inProgress_some_contains {m : Memo} {l n : Nat} (h : m.inProgress? l = some n) :
    m.loops.contains l = true :=
  List.contains_iff_mem.mpr (mem_loops_of_mem (inProgress_some h))

theorem mem_union {a b : Deps} {r : Res} : r ∈ Deps.union a b ↔ r ∈ a ∨ r ∈ b := by
  unfold Deps.union
  induction b generalizing a with
  | nil => simp
  | cons x b ih =>
    rw [List.foldl_cons, ih, List.mem_cons, ← or_assoc]
    refine or_congr_left ?_
    split
    · next hx => exact ⟨Or.inl, fun h => h.elim id fun e => e ▸ List.contains_iff_mem.mp hx⟩
    · simp

theorem usable_iff {m : CMemo} {e : CEntry} : m.usable e = true ↔ ∀ r ∈ e.deps, r ∈ m.resolving := by
  unfold CMemo.usable
  simp only [List.all_eq_true, List.contains_eq_mem, decide_eq_true_eq]

theorem safe_iff {m : CMemo} {e : CEntry} : m.safe e = true ↔ ∀ l ∈ e.used, l ∉ loops m.resolving := by
  unfold CMemo.safe loops
  simp only [List.all_eq_true, List.contains_eq_mem, Bool.not_eq_true', decide_eq_false_iff_not]

theorem hit?_false (m : CMemo) (k : Key) :
    m.hit? false k = some (m.entries.find? fun e => e.key = k && m.usable e && m.safe e) := rfl

theorem hit?_true (m : CMemo) (k : Key) :
    m.hit? true k = match (m.slot? k).filter m.usable with
      | none => some none
      | some e => if m.safe e then some (some e) else none := rfl

theorem hit?_some {m : CMemo} {strict : Bool} {k : Key} {e : CEntry}
    (h : m.hit? strict k = some (some e)) :
    e ∈ m.entries ∧ e.key = k ∧ m.usable e = true ∧ m.safe e = true := by
  cases strict with
  | false =>
    have hf := Option.some.inj ((hit?_false m k).symm.trans h)
    have h2 := List.find?_some hf
    simp only [Bool.and_eq_true, decide_eq_true_eq] at h2
    exact ⟨List.mem_of_find?_eq_some hf, h2.1.1, h2.1.2, h2.2⟩
  | true =>
    rw [hit?_true] at h
    split at h
    · cases h
    · next e' hf =>
      split at h
      · next hsafe =>
        cases h
        obtain ⟨hslot, huse⟩ := Option.filter_eq_some_iff.mp hf
        exact ⟨List.mem_of_find?_eq_some hslot, by simpa using List.find?_some hslot, huse, hsafe⟩
      · cases h

theorem erase_slot (m : CMemo) (k : Key) : m.erase.slot? k = (m.slot? k).map CEntry.erase := by
  unfold CMemo.erase Memo.slot? CMemo.slot?
  simp only [List.find?_map]
  rfl

theorem erase_usable (m : CMemo) (e : CEntry) : m.erase.usable e.erase = m.usable e := rfl

theorem erase_filter (m : CMemo) (k : Key) :
    (m.erase.slot? k).filter m.erase.usable = ((m.slot? k).filter m.usable).map CEntry.erase := by
  rw [erase_slot]
  cases m.slot? k with
  | none => rfl
  | some e =>
    simp only [Option.map_some, Option.filter_some, erase_usable]
    by_cases hu : m.usable e = true <;> simp [hu]

theorem erase_put (m : CMemo) (k : Key) (t : Tbl) (d : Deps) (u : List Nat) :
    (m.put k t d u).erase = m.erase.put k t d := rfl

end SuppModel.Flow
