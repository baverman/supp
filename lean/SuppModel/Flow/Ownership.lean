/-
  C05: which bindings a table can contain.  `tblInv`: an entrywise predicate, indexed by the scope,
  that holds of "undefined" and of the own bindings of every flow, and survives the way a root flow
  wraps the enclosing scope's table (`scopeWrap`), holds of every table the evaluator computes.
  Its two instances: `chainInv` (every binding is owned by a scope of the lookup chain) and
  `locInv` (in a function scope, a key in `locals` only has own bindings or "undefined").
-/
import SuppModel.Flow.Scoping
import SuppModel.Flow.EvalEqns
namespace SuppModel.Flow

theorem eraseDups_length (l : List Nat) :
    l.eraseDups.length ≤ l.length ∧ (l.eraseDups.length = l.length → l.Nodup) := by
  match l with
  | [] => exact ⟨Nat.le_refl _, fun _ => List.nodup_nil⟩
  | a :: as =>
    have h2 := List.length_filter_le (fun b => !b == a) as
    obtain ⟨h1, h1'⟩ := eraseDups_length (as.filter (fun b => !b == a))
    rw [List.eraseDups_cons, List.length_cons, List.length_cons]
    refine ⟨by omega, fun h => ?_⟩
    have hall := List.length_filter_eq_length_iff.mp (show (as.filter (fun b => !b == a)).length = as.length by omega)
    rw [List.filter_eq_self.mpr hall] at h h1'
    exact List.nodup_cons.mpr ⟨fun hmem => by simpa using hall a hmem, h1' (by omega)⟩
termination_by l.length
decreasing_by exact Nat.lt_succ_of_le (List.length_filter_le ..)

theorem find?_of_nodup {l : List NameRec} (hn : (l.map (·.id)).Nodup) {n : NameRec} (hm : n ∈ l) :
    l.find? (·.id == n.id) = some n := by
  induction l with
  | nil => cases hm
  | cons a l ih =>
    rw [List.map_cons, List.nodup_cons] at hn
    rw [List.find?_cons]
    rcases List.mem_cons.mp hm with rfl | hm
    · simp
    · have hne : (a.id == n.id) = false := by
        rw [beq_eq_false_iff_ne]
        intro he
        exact hn.1 (he ▸ List.mem_map_of_mem hm)
      rw [hne]
      exact ih hn.2 hm

theorem find?_of_filter_le_one {α} {l : List α} {p : α → Bool} (h : (l.filter p).length ≤ 1) {a : α}
    (ha : a ∈ l) (hp : p a = true) : l.find? p = some a := by
  have hm := List.mem_filter.mpr ⟨ha, hp⟩
  rw [← List.head?_filter]
  generalize l.filter p = fl at h hm
  match fl, h, hm with
  | [x], _, hm => rw [List.mem_singleton.mp hm]; rfl

structure WF (g : Graph) : Prop where
  nodup : ((g.flows.flatMap (·.names) ++ g.scopes.flatMap (·.globals)).map (·.id)).Nodup
  names : ∀ fr ∈ g.flows, ∀ n ∈ fr.names, n.scope = fr.scope
  parents : ∀ fr ∈ g.flows, ∀ p ∈ fr.parents, ∃ ft, g.flow? p.target = some ft ∧ ft.scope = fr.scope
  final : ∀ s ∈ g.scopes, (∃ ff, g.flow? s.final = some ff ∧ ff.scope = s.id) ∨ s.kind = .builtin
  onemod : (g.scopes.filter (fun s => s.kind == .module)).length ≤ 1
  root : ∀ s ∈ g.scopes, reachesRoot g (g.scopes.length + 1) s.id = true
  scope : ∀ fr ∈ g.flows, ∃ sc, g.scope? fr.scope = some sc

theorem WF.of (g : Graph) (h : g.wf = true) : WF g := by
  unfold Graph.wf at h
  simp only [Bool.and_eq_true, List.all_eq_true, beq_iff_eq, decide_eq_true_eq, Bool.or_eq_true,
    Option.any_eq_true] at h
  obtain ⟨⟨⟨⟨⟨⟨⟨h1, _⟩, _⟩, h4⟩, h5⟩, h6⟩, h7⟩, h8⟩ := h
  refine ⟨(eraseDups_length _).2 (by rw [h1, List.length_map]), fun fr hfr => (h4 fr hfr).1, ?_, h5,
    h6, h7, fun fr hfr => Option.isSome_iff_exists.mp (h8 fr hfr)⟩
  intro fr hfr p hp
  have := (h4 fr hfr).2 p hp
  cases p <;> exact ((Option.any_eq_true ..).mp this).imp fun _ h => ⟨h.1, beq_iff_eq.mp h.2⟩

theorem mem_allNames_flow {g : Graph} {fr : FlowRec} {n : NameRec} (hfr : fr ∈ g.flows)
    (hn : n ∈ fr.names) : n ∈ g.flows.flatMap (·.names) ++ g.scopes.flatMap (·.globals) :=
  List.mem_append_left _ (List.mem_flatMap.mpr ⟨fr, hfr, hn⟩)

theorem mem_allNames_global {g : Graph} {sc : ScopeRec} {n : NameRec} (hsc : sc ∈ g.scopes)
    (hn : n ∈ sc.globals) : n ∈ g.flows.flatMap (·.names) ++ g.scopes.flatMap (·.globals) :=
  List.mem_append_right _ (List.mem_flatMap.mpr ⟨sc, hsc, hn⟩)

theorem own_flow {g : Graph} (w : WF g) {fr : FlowRec} {n : NameRec} (hfr : fr ∈ g.flows)
    (hn : n ∈ fr.names) :
    g.name? n.id = some n ∧ g.isGlobal n.id = false ∧ g.owner? n.id = some fr.scope := by
  have h1 : g.name? n.id = some n := find?_of_nodup w.nodup (mem_allNames_flow hfr hn)
  have h2 : g.isGlobal n.id = false := Bool.eq_false_iff.mpr fun hg => by
    obtain ⟨n', hn', he⟩ := List.any_eq_true.mp hg
    have hnd := w.nodup
    rw [List.map_append, List.nodup_append] at hnd
    exact hnd.2.2 n.id (List.mem_map_of_mem (List.mem_flatMap.mpr ⟨fr, hfr, hn⟩)) n'.id
      (List.mem_map_of_mem hn') (beq_iff_eq.mp he).symm
  refine ⟨h1, h2, ?_⟩
  unfold Graph.owner?
  rw [h2, h1]
  simp [w.names fr hfr n hn]

theorem own_global {g : Graph} (w : WF g) {sc : ScopeRec} {n : NameRec} (hsc : sc ∈ g.scopes)
    (hk : sc.kind = .module) (hn : n ∈ sc.globals) : g.owner? n.id = some sc.id := by
  have h1 : g.isGlobal n.id = true :=
    List.any_eq_true.mpr ⟨n, List.mem_flatMap.mpr ⟨sc, hsc, hn⟩, beq_self_eq_true _⟩
  rw [Graph.owner?, if_pos h1, find?_of_filter_le_one w.onemod hsc (by simp [hk])]
  rfl

def TblAll (Q : String → Alt → Prop) (t : Tbl) : Prop := ∀ k v, (k, v) ∈ t → ∀ a ∈ v, Q k a

theorem TblAll.nil {Q} : TblAll Q [] := by intro k v h; cases h

theorem TblAll.append {Q t1 t2} (h1 : TblAll Q t1) (h2 : TblAll Q t2) : TblAll Q (t1 ++ t2) := by
  intro k v h
  rcases List.mem_append.mp h with h | h
  · exact h1 k v h
  · exact h2 k v h

theorem TblAll.filter {Q t} (p : String × Val → Bool) (h : TblAll Q t) : TblAll Q (t.filter p) :=
  fun k v hm => h k v (List.mem_filter.mp hm).1

theorem TblAll.mono {Q Q' : String → Alt → Prop} {t} (h : TblAll Q t) (hq : ∀ k a, Q k a → Q' k a) :
    TblAll Q' t := fun k v hm a ha => hq k a (h k v hm a ha)

theorem TblAll.ownTable {Q : String → Alt → Prop} {names : List NameRec}
    (h : ∀ n ∈ names, Q n.name (Alt.nm n.id)) : TblAll Q (ownTable names) := by
  intro k v hm a ha
  rw [ownTable_eq, List.mem_reverse, List.mem_map] at hm
  obtain ⟨n, hn, e⟩ := hm
  cases e
  rcases List.mem_singleton.mp ha with rfl
  exact h n hn

theorem Tbl.get?_mem {t : Tbl} {k : String} {v : Val} (h : t.get? k = some v) : (k, v) ∈ t := by
  induction t with
  | nil => simp [Tbl.get?] at h
  | cons e t ih =>
    obtain ⟨k', v'⟩ := e
    rw [Tbl.get?] at h
    split at h
    · cases h
      subst k'
      exact List.mem_cons_self
    · exact List.mem_cons_of_mem _ (ih h)

theorem insertAlt_subset (b : Alt) : ∀ l, insertAlt b l ⊆ b :: l
  | [] => List.Subset.refl _
  | c :: l => by
    rw [insertAlt]
    split
    · exact List.subset_cons_self ..
    · split
      · exact List.Subset.refl _
      · exact (List.cons_subset_cons c (insertAlt_subset b l)).trans (List.Perm.swap ..).subset

theorem canon_subset : ∀ l, canon l ⊆ l
  | [] => List.Subset.refl _
  | b :: l => (insertAlt_subset b _).trans (List.cons_subset_cons b (canon_subset l))

theorem TblAll.merge {Q : String → Alt → Prop} {ts : List Tbl} (h : ∀ t ∈ ts, TblAll Q t)
    (hu : ∀ k, Q k (Alt.undef k)) : TblAll Q (mergeTables ts) := by
  intro k v hm a ha
  obtain ⟨k', _, he⟩ := List.mem_map.mp hm
  cases he
  obtain ⟨t, ht, hat⟩ := List.mem_flatMap.mp (canon_subset _ ha)
  cases hg : t.get? k with
  | none =>
    rw [hg] at hat
    cases List.mem_singleton.mp hat
    exact hu k
  | some v' =>
    rw [hg] at hat
    exact h t ht k v' (Tbl.get?_mem hg) a hat

theorem outerChain_stable (g : Graph) : ∀ k s, reachesRoot g k s = true →
    outerChain g (k + 1) s = outerChain g k s := by
  intro k
  induction k with
  | zero => intro s h; simp [reachesRoot] at h
  | succ k ih =>
    intro s h
    rw [reachesRoot] at h
    rw [outerChain, outerChain]
    cases hsc : g.scope? s with
    | none => rfl
    | some sc =>
      simp only [hsc] at h ⊢
      cases hp : sc.parent with
      | none => cases hk : sc.kind <;> rfl
      | some p =>
        simp only [hp] at h
        cases hk : sc.kind <;> simp only [ih p h]

/-- the scopes a binding may be owned by -/
def QC (g : Graph) (chain : List Nat) : String → Alt → Prop :=
  fun _ a => ∀ id, a = Alt.nm id → ∃ s, g.owner? id = some s ∧ s ∈ chain

theorem ownedBy_of_all {g : Graph} {chain : List Nat} {t : Tbl} (h : TblAll (QC g chain) t) :
    t.ownedBy g chain := fun k v hm id hid => h k v hm _ hid id rfl

theorem QC.sub {g : Graph} {c c' : List Nat} (h : ∀ s ∈ c, s ∈ c') (k : String) (a : Alt)
    (hq : QC g c k a) : QC g c' k a := by
  intro id hid
  obtain ⟨s, h1, h2⟩ := hq id hid
  exact ⟨s, h1, h _ h2⟩

theorem QC.undef {g : Graph} {c : List Nat} (k : String) : QC g c k (Alt.undef k) := by
  intro id hid; cases hid

theorem lookupChain_eq {g : Graph} {s : Nat} {sc : ScopeRec} (h : g.scope? s = some sc) :
    lookupChain g s = s :: match sc.parent with
      | some p => outerChain g (g.scopes.length + 1) p
      | none => [] := by
  unfold lookupChain
  rw [h]
  simp only []
  cases sc.parent <;> rfl

theorem lookupChain_self {g : Graph} {s : Nat} {sc : ScopeRec} (h : g.scope? s = some sc) :
    s ∈ lookupChain g s :=
  lookupChain_eq h ▸ List.mem_cons_self

/-- seen from inside, a function or module scope contributes itself and what its own flows see -/
theorem lookupChain_eq_outer {g : Graph} {s : Nat} {sc : ScopeRec} (h : g.scope? s = some sc)
    (hk : sc.kind = .module ∨ sc.kind = .func)
    (hr : reachesRoot g (g.scopes.length + 1) s = true) :
    outerChain g (g.scopes.length + 1) s = lookupChain g s := by
  rw [← outerChain_stable g _ s hr, outerChain, lookupChain_eq h]
  simp only [h]
  cases sc.parent <;> rcases hk with hk | hk <;> simp only [hk]

theorem outerChain_cls {g : Graph} {s p : Nat} {sc : ScopeRec} (h : g.scope? s = some sc)
    (hk : sc.kind = .cls) (hp : sc.parent = some p)
    (hr : reachesRoot g (g.scopes.length + 1) s = true) :
    outerChain g (g.scopes.length + 1) s = outerChain g (g.scopes.length + 1) p := by
  rw [← outerChain_stable g _ s hr, outerChain]
  simp only [h, hk, hp]

theorem TblAll.builtin {g : Graph} {c : List Nat} : TblAll (QC g c) (builtinTable g) := by
  intro k v hm a ha id hid
  unfold builtinTable at hm
  obtain ⟨n, _, he⟩ := List.mem_map.mp hm
  have hv := (Prod.mk.inj he).2
  rw [← hv] at ha
  rcases List.mem_singleton.mp ha with rfl
  cases hid

theorem TblAll.globals {g : Graph} (w : WF g) {s : Nat} {sc : ScopeRec} {c : List Nat}
    (hsc : g.scope? s = some sc) (hk : sc.kind = .module) (hc : s ∈ c) :
    TblAll (QC g c) (globalsTable sc) :=
  TblAll.ownTable fun nr hnr id hid => by
    cases hid
    exact ⟨s, scope?_id hsc ▸ own_global w (scope?_mem hsc) hk hnr, hc⟩

/-- every table of a flow of scope `S` satisfies `Q S` entrywise, the `names` of scope `s` satisfy
    `Qo s`, with fuel `n` -/
structure TblInv (g : Graph) (Q Qo : Nat → String → Alt → Prop) (n : Nat) : Prop where
  fl : ∀ R f fr t, g.flow? f = some fr → flowNames g n R f = some t → TblAll (Q fr.scope) t
  lp : ∀ R l tg ft t, g.flow? tg = some ft → loopNames g n R l tg = some (some t) →
    TblAll (Q ft.scope) t
  pt : ∀ R ps S ts, (∀ p ∈ ps, ∃ ft, g.flow? p.target = some ft ∧ ft.scope = S) →
    parentTables g n R ps = some ts → ∀ t ∈ ts, TblAll (Q S) t
  pn : ∀ R fr t, fr ∈ g.flows → parentNames g n R fr = some t → TblAll (Q fr.scope) t
  sc : ∀ R s t, scopeNames g n R s = some t → TblAll (Qo s) t

theorem TblInv.pr {g Q Qo n} (h : TblInv g Q Qo n) {R p ft t} (hft : g.flow? p.target = some ft)
    (hp : predNames g n R p = some (some t)) : TblAll (Q ft.scope) t := by
  cases p with
  | flow q =>
    obtain ⟨t', ht', e⟩ := Option.map_eq_some_iff.mp hp
    cases e
    exact h.fl R q ft t hft ht'
  | loop l tg => exact h.lp R l tg ft t hft hp

theorem tblInv {g : Graph} (w : WF g) {Q Qo : Nat → String → Alt → Prop}
    (hundef : ∀ S k, Q S k (Alt.undef k))
    (hown : ∀ fr ∈ g.flows, ∀ nr ∈ fr.names, Q fr.scope nr.name (Alt.nm nr.id))
    (hwrap : ∀ fr ∈ g.flows, ∀ sc ps outer, g.scope? fr.scope = some sc → sc.parent = some ps →
      TblAll (Qo ps) outer → TblAll (Q fr.scope) (scopeWrap sc outer))
    (hsc : ∀ s sc, g.scope? s = some sc →
      match sc.kind with
      | .builtin => TblAll (Qo s) (builtinTable g)
      | .module => ∀ t, TblAll (Q s) t → TblAll (Qo s) (t ++ globalsTable sc)
      | .func => ∀ t, TblAll (Q s) t → TblAll (Qo s) t
      | .cls => ∀ p t, sc.parent = some p → TblAll (Qo p) t → TblAll (Qo s) t) :
    ∀ n, TblInv g Q Qo n := by
  intro n
  induction n with
  | zero => constructor <;> simp
  | succ n ih =>
    refine ⟨?_, ?_, ?_, ?_, ?_⟩
    · intro R f fr t hf h
      rw [flowNames_succ, hf, Option.bind_some, Option.map_eq_some_iff] at h
      obtain ⟨p, hp, rfl⟩ := h
      exact (TblAll.ownTable (hown fr (flow?_mem hf))).append (ih.pn R fr p (flow?_mem hf) hp)
    · intro R l tg ft t hft h
      rw [loopNames_succ] at h
      split at h
      · cases h
      · obtain ⟨t', ht', e⟩ := Option.map_eq_some_iff.mp h
        cases e
        exact ih.fl _ tg ft t hft ht'
    · intro R ps S ts hps h t ht
      cases ps with
      | nil =>
        rw [parentTables_nil] at h
        cases h
        cases ht
      | cons p rest =>
        rw [parentTables_cons, Option.bind_eq_some_iff] at h
        obtain ⟨r, hr, h⟩ := h
        obtain ⟨ts2, h3, rfl⟩ := Option.map_eq_some_iff.mp h
        rcases List.mem_append.mp ht with ht | ht
        · obtain ⟨ft, hft, rfl⟩ := hps p List.mem_cons_self
          exact ih.pr hft (Option.mem_toList.mp ht ▸ hr)
        · exact ih.pt R rest S ts2 (fun p hp => hps p (List.mem_cons_of_mem _ hp)) h3 t ht
    · intro R fr t hfr h
      match hps : fr.parents with
      | [] =>
        rw [parentNames_nil hps] at h
        obtain ⟨sc, hsc', h⟩ := Option.bind_eq_some_iff.mp h
        cases hp : sc.parent with
        | none =>
          simp only [hp] at h
          cases h
          exact TblAll.nil
        | some ps =>
          simp only [hp, Option.map_eq_some_iff] at h
          obtain ⟨outer, ho, rfl⟩ := h
          exact hwrap fr hfr sc ps outer hsc' hp (ih.sc R ps outer ho)
      | [p] =>
        rw [parentNames_single hps, Option.map_eq_some_iff] at h
        obtain ⟨r, hr, rfl⟩ := h
        cases r with
        | none => exact TblAll.nil
        | some t' =>
          obtain ⟨ft, hft, hs⟩ := w.parents fr hfr p (hps ▸ List.mem_cons_self)
          exact hs ▸ ih.pr hft hr
      | a :: b :: rest =>
        rw [parentNames_many hps, Option.map_eq_some_iff] at h
        obtain ⟨ts, hts, rfl⟩ := h
        exact TblAll.merge (ih.pt R _ _ ts (w.parents fr hfr) hts) (hundef _)
    · intro R s t h
      rw [scopeNames_succ] at h
      obtain ⟨sc, hsc', h⟩ := Option.bind_eq_some_iff.mp h
      have hs := hsc s sc hsc'
      have hfin : ∀ t', flowNames g n R sc.final = some t' → sc.kind ≠ .builtin →
          TblAll (Q s) t' := by
        intro t' ht' hk
        rcases w.final sc (scope?_mem hsc') with ⟨ff, hff, hs'⟩ | hb
        · exact scope?_id hsc' ▸ hs' ▸ ih.fl R sc.final ff t' hff ht'
        · exact absurd hb hk
      cases hk : sc.kind with
      | builtin =>
        simp only [hk] at h hs
        cases h
        exact hs
      | module =>
        simp only [hk, Option.map_eq_some_iff] at h hs
        obtain ⟨t', ht', rfl⟩ := h
        exact hs t' (hfin t' ht' (by rw [hk]; nofun))
      | func =>
        simp only [hk] at h hs
        exact hs t (hfin t h (by rw [hk]; nofun))
      | cls =>
        simp only [hk] at h hs
        obtain ⟨p, hp, h⟩ := Option.bind_eq_some_iff.mp h
        exact hs p t hp (ih.sc R p t h)

theorem chain_own {g : Graph} (w : WF g) {fr : FlowRec} (hfr : fr ∈ g.flows) {nr : NameRec}
    (hnr : nr ∈ fr.names) : QC g (lookupChain g fr.scope) nr.name (Alt.nm nr.id) := by
  intro id hid
  cases hid
  obtain ⟨sc, hsc⟩ := w.scope fr hfr
  exact ⟨fr.scope, (own_flow w hfr hnr).2.2, lookupChain_self hsc⟩

theorem chainInv {g : Graph} (w : WF g) : ∀ n,
    TblInv g (fun S => QC g (lookupChain g S))
      (fun s => QC g (outerChain g (g.scopes.length + 1) s)) n := by
  refine tblInv w (fun _ => QC.undef) (fun fr hfr nr => chain_own w hfr) ?_ ?_
  · intro fr hfr sc ps outer hsc hp hO
    rw [lookupChain_eq hsc, hp]
    have hO' : TblAll (QC g (fr.scope :: outerChain g (g.scopes.length + 1) ps)) outer :=
      hO.mono (QC.sub fun s hs => List.mem_cons_of_mem _ hs)
    unfold scopeWrap
    cases hk : sc.kind with
    | module => exact (TblAll.globals w hsc hk List.mem_cons_self).append hO'
    | cls => exact hO'
    | func => exact hO'.filter _
    | builtin => exact hO'.filter _
  · intro s sc hsc
    have hroot : reachesRoot g (g.scopes.length + 1) s = true :=
      scope?_id hsc ▸ w.root sc (scope?_mem hsc)
    cases hk : sc.kind with
    | builtin => exact TblAll.builtin
    | module =>
      intro t ht
      rw [lookupChain_eq_outer hsc (Or.inl hk) hroot]
      exact ht.append (TblAll.globals w hsc hk (lookupChain_self hsc))
    | func =>
      intro t ht
      rwa [lookupChain_eq_outer hsc (Or.inr hk) hroot]
    | cls =>
      intro p t hp ht
      rwa [outerChain_cls hsc hk hp hroot]

theorem namesAt_chain {g : Graph} (w : WF g) {n : Nat} {R : List Nat} {f : Nat} {fr : FlowRec}
    {pos : Pos} {t : Tbl} (hf : g.flow? f = some fr) (ht : namesAt g n R f pos = some t) :
    TblAll (QC g (lookupChain g fr.scope)) t := by
  rw [namesAt_eq, hf, Option.bind_some, Option.map_eq_some_iff] at ht
  obtain ⟨p, hp, rfl⟩ := ht
  exact (TblAll.ownTable fun nr hnr => chain_own w (flow?_mem hf) (List.mem_of_mem_take hnr)).append
    ((chainInv w n).pn R fr p (flow?_mem hf) hp)

def QL (g : Graph) (S : Nat) (locals : List String) : String → Alt → Prop :=
  fun k a => k ∈ locals → a = Alt.undef k ∨
    ∃ id nr, a = Alt.nm id ∧ g.name? id = some nr ∧ nr.scope = S ∧ ¬ (g.isGlobal id = true)

/-- the enclosing scope's table reaches a function's flows only through the filter that drops
    the function's `locals`; nothing is claimed about the other scopes -/
theorem locInv {g : Graph} (w : WF g) {S : Nat} {sc : ScopeRec} (hS : g.scope? S = some sc)
    (hkind : sc.kind = .func) : ∀ n,
    TblInv g (fun S' k a => S' = S → QL g S sc.locals k a) (fun _ _ _ => True) n := by
  refine tblInv w (fun _ k _ _ => Or.inl rfl) ?_ ?_ ?_
  · intro fr hfr nr hnr hs _
    obtain ⟨h1, h2, _⟩ := own_flow w hfr hnr
    exact Or.inr ⟨nr.id, nr, rfl, h1, (w.names fr hfr nr hnr).trans hs, by rw [h2]; simp⟩
  · intro fr hfr sc' ps outer hsc' hp _ k v hm a _ hs hk
    rw [hs, hS] at hsc'
    cases hsc'
    rw [scopeWrap, hkind] at hm
    have := (List.mem_filter.mp hm).2
    simp only [Bool.not_eq_true', List.contains_eq_mem, decide_eq_false_iff_not] at this
    exact absurd hk this
  · intro s sc' _
    cases sc'.kind <;> simp only [TblAll, implies_true]

theorem outerChain_kind (g : Graph) : ∀ k s x, x ∈ outerChain g k s →
    ∃ sx, g.scope? x = some sx ∧ (sx.kind = .module ∨ sx.kind = .func) := by
  intro k
  induction k with
  | zero => intro s x h; simp [outerChain] at h
  | succ k ih =>
    intro s x h
    rw [outerChain] at h
    cases hsc : g.scope? s with
    | none => simp [hsc] at h
    | some sc =>
      simp only [hsc] at h
      cases hk : sc.kind <;> cases hp : sc.parent <;>
        simp only [hk, hp, List.mem_cons, List.not_mem_nil, or_false] at h
      · exact ⟨sc, h ▸ hsc, Or.inl hk⟩
      · exact h.elim (fun e => ⟨sc, e ▸ hsc, Or.inl hk⟩) (ih _ _)
      · exact ⟨sc, h ▸ hsc, Or.inr hk⟩
      · exact h.elim (fun e => ⟨sc, e ▸ hsc, Or.inr hk⟩) (ih _ _)
      · exact ih _ _ h

theorem class_hidden {g : Graph} {m c : Nat} {sm sc : ScopeRec} (hm : g.scope? m = some sm)
    (hk : sm.kind = .func) (hp : sm.parent = some c) (hc : g.scope? c = some sc)
    (hck : sc.kind = .cls) : c ∉ lookupChain g m := by
  rw [lookupChain_eq hm, hp]
  intro h
  rcases List.mem_cons.mp h with h | h
  · subst h
    rw [hm] at hc
    cases hc
    rw [hk] at hck
    cases hck
  · obtain ⟨sx, hsx, hkx⟩ := outerChain_kind g _ _ _ h
    rw [hc] at hsx
    cases hsx
    rw [hck] at hkx
    rcases hkx with h | h <;> cases h

end SuppModel.Flow
