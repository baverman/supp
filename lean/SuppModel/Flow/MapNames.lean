/-
  The evaluators of Graph.lean and Memo.lean never look at anything of a binding but its `name`
  and `id` - except `bisectRight`, at the queried region only.  `Graph.mapNames ψ` rewrites every
  binding by a map `ψ` that keeps `id` and `name` (`Graph.mapLoc φ` and `Graph.eraseLoc` are
  instances): all five functions, pure and memoised, are invariant under it.
-/
import SuppModel.Flow.Scoping
import SuppModel.Flow.Iso
import SuppModel.Flow.EvalEqns
namespace SuppModel.Flow

def FlowRec.mapNames (ψ : NameRec → NameRec) (f : FlowRec) : FlowRec :=
  { f with names := f.names.map ψ }
def ScopeRec.mapNames (ψ : NameRec → NameRec) (s : ScopeRec) : ScopeRec :=
  { s with globals := s.globals.map ψ }
def Graph.mapNames (ψ : NameRec → NameRec) (g : Graph) : Graph :=
  { g with flows := g.flows.map (FlowRec.mapNames ψ), scopes := g.scopes.map (ScopeRec.mapNames ψ) }

theorem Graph.mapLoc_eq (φ : Pos → Pos) (g : Graph) : g.mapLoc φ = g.mapNames (NameRec.mapLoc φ) := rfl
theorem Graph.eraseLoc_eq (g : Graph) : g.eraseLoc = g.mapNames NameRec.eraseLoc := rfl

/-- `ψ` keeps what the evaluators read -/
def KeepsIdName (ψ : NameRec → NameRec) : Prop := ∀ n, (ψ n).id = n.id ∧ (ψ n).name = n.name

theorem keeps_mapLoc (φ : Pos → Pos) : KeepsIdName (NameRec.mapLoc φ) := fun _ => ⟨rfl, rfl⟩
theorem keeps_eraseLoc : KeepsIdName NameRec.eraseLoc := fun _ => ⟨rfl, rfl⟩

theorem ownTable_map {ψ : NameRec → NameRec} (hψ : KeepsIdName ψ) (names : List NameRec) :
    ownTable (names.map ψ) = ownTable names := by
  unfold ownTable
  rw [List.foldl_map]
  congr 1
  funext acc n
  rw [(hψ n).1, (hψ n).2]

theorem globalsTable_map {ψ : NameRec → NameRec} (hψ : KeepsIdName ψ) (s : ScopeRec) :
    globalsTable (s.mapNames ψ) = globalsTable s :=
  ownTable_map hψ s.globals

theorem scopeWrap_mapNames {ψ : NameRec → NameRec} (hψ : KeepsIdName ψ) (s : ScopeRec) :
    scopeWrap (s.mapNames ψ) = scopeWrap s := by
  funext outer
  simp only [scopeWrap, globalsTable_eq, ScopeRec.mapNames, ownTable_map hψ]

theorem flow?_mapNames (ψ : NameRec → NameRec) (g : Graph) (f : Nat) :
    (g.mapNames ψ).flow? f = (g.flow? f).map (FlowRec.mapNames ψ) := by
  unfold Graph.flow? Graph.mapNames
  simp only [List.find?_map]
  rfl

theorem scope?_mapNames (ψ : NameRec → NameRec) (g : Graph) (s : Nat) :
    (g.mapNames ψ).scope? s = (g.scope? s).map (ScopeRec.mapNames ψ) := by
  unfold Graph.scope? Graph.mapNames
  simp only [List.find?_map]
  rfl

theorem builtinTable_mapNames (ψ : NameRec → NameRec) (g : Graph) :
    builtinTable (g.mapNames ψ) = builtinTable g := rfl

structure InvP (ψ : NameRec → NameRec) (g : Graph) (n : Nat) : Prop where
  fl : ∀ R f, flowNames (g.mapNames ψ) n R f = flowNames g n R f
  pn : ∀ R (fr' fr : FlowRec), fr'.parents = fr.parents → fr'.scope = fr.scope →
        parentNames (g.mapNames ψ) n R fr' = parentNames g n R fr
  pt : ∀ R ps, parentTables (g.mapNames ψ) n R ps = parentTables g n R ps
  lp : ∀ R l tg, loopNames (g.mapNames ψ) n R l tg = loopNames g n R l tg
  sc : ∀ R s, scopeNames (g.mapNames ψ) n R s = scopeNames g n R s

theorem invP {ψ : NameRec → NameRec} (hψ : KeepsIdName ψ) (g : Graph) : ∀ n, InvP ψ g n := by
  intro n
  induction n with
  | zero => constructor <;> simp
  | succ n ih =>
    have hpd : ∀ R p, predNames (g.mapNames ψ) n R p = predNames g n R p :=
      fun R p => by cases p <;> simp only [predNames, ih.fl, ih.lp]
    refine ⟨?_, ?_, ?_, ?_, ?_⟩
    · intro R f
      rw [flowNames_succ, flowNames_succ, flow?_mapNames]
      cases g.flow? f with
      | none => rfl
      | some fr =>
        rw [Option.map_some, Option.bind_some, Option.bind_some, ih.pn R (fr.mapNames ψ) fr rfl rfl]
        simp only [FlowRec.mapNames, ownTable_map hψ]
    · intro R fr' fr hp hs
      match hps : fr.parents with
      | [] =>
        rw [parentNames_nil (hp.trans hps), parentNames_nil hps, hs, scope?_mapNames]
        cases g.scope? fr.scope with
        | none => rfl
        | some sc =>
          simp only [Option.map_some, Option.bind_some, ih.sc, scopeWrap_mapNames hψ]
          rfl
      | [p] => rw [parentNames_single (hp.trans hps), parentNames_single hps, hpd]
      | a :: b :: rest =>
        rw [parentNames_many (hp.trans hps), parentNames_many hps, hp, ih.pt]
    · intro R ps
      cases ps with
      | nil => rw [parentTables_nil, parentTables_nil]
      | cons p rest => simp only [parentTables_cons, hpd, ih.pt]
    · intro R l tg
      rw [loopNames_succ, loopNames_succ, ih.fl]
    · intro R s
      rw [scopeNames_succ, scopeNames_succ, scope?_mapNames]
      cases g.scope? s with
      | none => rfl
      | some sc =>
        simp only [Option.map_some, Option.bind_some, ih.fl, funext (ih.sc R), globalsTable_eq,
          ScopeRec.mapNames, ownTable_map hψ, builtinTable_mapNames]

/-- `parent_names` reads only the predecessors and the scope of a region -/
theorem parentNames_congr (g : Graph) (n : Nat) (R : List Nat) (fr' fr : FlowRec)
    (hp : fr'.parents = fr.parents) (hs : fr'.scope = fr.scope) :
    parentNames g n R fr' = parentNames g n R fr := by
  cases n with
  | zero => simp
  | succ n => rw [parentNames, parentNames, hp, hs]

structure InvM (ψ : NameRec → NameRec) (g : Graph) (n : Nat) : Prop where
  fl : ∀ m f, mFlowNames (g.mapNames ψ) n m f = mFlowNames g n m f
  pn : ∀ m (fr' fr : FlowRec), fr'.id = fr.id → fr'.parents = fr.parents → fr'.scope = fr.scope →
        mParentNames (g.mapNames ψ) n m fr' = mParentNames g n m fr
  pt : ∀ m ps, mParentTables (g.mapNames ψ) n m ps = mParentTables g n m ps
  lp : ∀ m l tg, mLoopNames (g.mapNames ψ) n m l tg = mLoopNames g n m l tg
  sc : ∀ m s, mScopeNames (g.mapNames ψ) n m s = mScopeNames g n m s

theorem invM {ψ : NameRec → NameRec} (hψ : KeepsIdName ψ) (g : Graph) : ∀ n, InvM ψ g n := by
  intro n
  induction n with
  | zero => constructor <;> intros <;> simp only [mFlowNames, mParentNames, mParentTables, mLoopNames, mScopeNames]
  | succ n ih =>
    constructor
    · intro m f
      rw [mFlowNames, mFlowNames, flow?_mapNames]
      cases g.flow? f with
      | none => rfl
      | some fr =>
        simp only [Option.map_some]
        rw [ih.pn m (fr.mapNames ψ) fr rfl rfl rfl]
        simp only [FlowRec.mapNames, ownTable_map hψ]
    · intro m fr' fr hi hp hs
      rw [mParentNames, mParentNames, hi, hp, hs]
      generalize fr.parents = ps
      match ps with
      | [] =>
        simp only []
        rw [scope?_mapNames]
        cases g.scope? fr.scope with
        | none => rfl
        | some sc =>
          simp only [Option.map_some, ScopeRec.mapNames, ih.sc, globalsTable_eq, ownTable_map hψ]
      | [Parent.flow p] => simp only [ih.fl]
      | [Parent.loop l t] => simp only [ih.lp]
      | _ :: _ :: _ => simp only [ih.pt]
    · intro m ps
      match ps with
      | [] => rw [mParentTables, mParentTables]
      | Parent.flow p :: rest => rw [mParentTables, mParentTables, ih.fl]; simp only [ih.pt]
      | Parent.loop l t :: rest => rw [mParentTables, mParentTables, ih.lp]; simp only [ih.pt]
    · intro m l tg
      rw [mLoopNames, mLoopNames]
      simp only [ih.fl]
    · intro m s
      rw [mScopeNames, mScopeNames, scope?_mapNames]
      cases g.scope? s with
      | none => rfl
      | some sc =>
        simp only [Option.map_some, ScopeRec.mapNames, ih.fl, ih.sc, globalsTable_eq, ownTable_map hψ,
          builtinTable_mapNames]

theorem mParentNames_congr (g : Graph) (n : Nat) (m : Memo) (fr' fr : FlowRec) (hi : fr'.id = fr.id)
    (hp : fr'.parents = fr.parents) (hs : fr'.scope = fr.scope) :
    mParentNames g n m fr' = mParentNames g n m fr := by
  cases n with
  | zero => simp [mParentNames]
  | succ n => rw [mParentNames, mParentNames, hi, hp, hs]

end SuppModel.Flow
