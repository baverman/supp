/-
  Relators on `Option` for comparing two evaluators call by call, and the fuel lemmas for the pure
  evaluator of Graph.lean: an answer given with fuel `n` is given, unchanged, with every larger
  fuel; hence two answers (any two fuels) are equal.
-/
import SuppModel.Flow.EvalEqns
namespace SuppModel.Flow

def Post {α} (P : α → Prop) (o : Option α) : Prop := ∀ a, o = some a → P a

theorem Post.bind {α β} {P : α → Prop} {Q : β → Prop} {o} {f : α → Option β} (h : Post P o)
    (hf : ∀ a, P a → Post Q (f a)) : Post Q (o >>= f) := by
  intro b hb
  obtain ⟨a, ha, hfa⟩ := Option.bind_eq_some_iff.mp hb
  exact hf a (h a ha) b hfa

theorem Post.pure {α} {P : α → Prop} {a} (h : P a) : Post P (some a) :=
  fun _ e => Option.some.inj e ▸ h

theorem Post.imp {α} {P Q : α → Prop} {o} (h : Post P o) (hpq : ∀ a, P a → Q a) : Post Q o :=
  fun a ha => hpq a (h a ha)

theorem Post.none {α} {P : α → Prop} : Post P none := fun _ h => nomatch h

/-- `o'` answers whenever `o` does, with a `ρ`-related answer -/
def Rel {α β} (ρ : α → β → Prop) (o : Option α) (o' : Option β) : Prop :=
  ∀ a, o = some a → ∃ b, o' = some b ∧ ρ a b

-- `Rel ρ o o'` is `Post (fun a => ∃ b, o' = some b ∧ ρ a b) o`, and `Le o o'` is `Post (o' = some ·) o`
theorem Rel.bind {α β γ δ} {ρ : α → β → Prop} {σ : γ → δ → Prop} {o o'} {f : α → Option γ}
    {f' : β → Option δ} (h : Rel ρ o o') (hf : ∀ a b, ρ a b → Rel σ (f a) (f' b)) :
    Rel σ (o >>= f) (o' >>= f') :=
  Post.bind h fun a ⟨b, hb, hab⟩ => by subst hb; exact hf a b hab

theorem Rel.bind_map {α β γ δ} {F : α → β} {σ : γ → δ → Prop} {o o'} {f : α → Option γ}
    {f' : β → Option δ} (h : Rel (fun a b => b = F a) o o') (hf : ∀ a, Rel σ (f a) (f' (F a))) :
    Rel σ (o >>= f) (o' >>= f') :=
  h.bind fun a _ e => e ▸ hf a

theorem Rel.bind_right {α β δ} {ρ : α → β → Prop} {σ : α → δ → Prop} {o o'} {f' : β → Option δ}
    (h : Rel ρ o o') (hf : ∀ a b, ρ a b → Rel σ (some a) (f' b)) : Rel σ o (o' >>= f') := by
  intro a ha
  obtain ⟨b, rfl, hab⟩ := h a ha
  exact hf a b hab a rfl

theorem Rel.pure {α β} {ρ : α → β → Prop} {a b} (h : ρ a b) : Rel ρ (some a) (some b) :=
  fun _ e => ⟨b, rfl, Option.some.inj e ▸ h⟩

theorem Rel.pure_right {α β} {ρ : α → β → Prop} {o : Option α} {b} (h : ∀ a, ρ a b) :
    Rel ρ o (some b) :=
  fun a _ => ⟨b, rfl, h a⟩

theorem Rel.none_left {α β} {ρ : α → β → Prop} {o' : Option β} : Rel ρ none o' :=
  fun _ h => nomatch h

/-- `o'` answers whenever `o` does, with the same answer -/
def Le {α} (o o' : Option α) : Prop := ∀ a, o = some a → o' = some a

theorem Le.refl {α} (o : Option α) : Le o o := fun _ h => h
theorem Le.none {α} (o : Option α) : Le none o := fun _ h => nomatch h
theorem Le.trans {α} {a b c : Option α} (h₁ : Le a b) (h₂ : Le b c) : Le a c :=
  fun x h => h₂ x (h₁ x h)
theorem Le.bind {α β} {o o' : Option α} {f f' : α → Option β} (h : Le o o') (hf : ∀ a, Le (f a) (f' a)) :
    Le (o >>= f) (o' >>= f') :=
  Post.bind h fun a ha => by subst ha; exact hf a

theorem Le.map {α β} {o o' : Option α} (h : Le o o') (f : α → β) : Le (o.map f) (o'.map f) := by
  intro b hb
  obtain ⟨a, ha, rfl⟩ := Option.map_eq_some_iff.mp hb
  rw [h a ha]
  rfl

theorem Le.isSome {α} {o o' : Option α} (h : Le o o') (ho : o.isSome) : o'.isSome := by
  obtain ⟨a, ha⟩ := Option.isSome_iff_exists.mp ho
  rw [h a ha]; rfl

theorem Le.det {α} {F : Nat → Option α} (h : ∀ n n', n ≤ n' → Le (F n) (F n')) {n n' : Nat} {a b : α}
    (ha : F n = some a) (hb : F n' = some b) : a = b :=
  Option.some.inj ((h _ _ (Nat.le_max_left n n') a ha).symm.trans (h _ _ (Nat.le_max_right n n') b hb))

structure Mono (g : Graph) (n n' : Nat) : Prop where
  fl : ∀ R f, Le (flowNames g n R f) (flowNames g n' R f)
  pn : ∀ R fr, Le (parentNames g n R fr) (parentNames g n' R fr)
  pt : ∀ R ps, Le (parentTables g n R ps) (parentTables g n' R ps)
  lp : ∀ R l tg, Le (loopNames g n R l tg) (loopNames g n' R l tg)
  sc : ∀ R s, Le (scopeNames g n R s) (scopeNames g n' R s)

theorem mono (g : Graph) {n n' : Nat} (hn : n ≤ n') : Mono g n n' := by
  induction n generalizing n' with
  | zero =>
    constructor <;> intros <;>
      simp only [flowNames_zero, parentNames_zero, parentTables_zero, loopNames_zero, scopeNames_zero] <;>
      exact Le.none _
  | succ n ih =>
    obtain ⟨n', rfl⟩ := Nat.exists_eq_add_one_of_ne_zero (Nat.ne_zero_of_lt hn)
    specialize ih (Nat.le_of_succ_le_succ hn)
    have hpd : ∀ R p, Le (predNames g n R p) (predNames g n' R p) := fun R p => by
      cases p with
      | flow q => exact (ih.fl R q).map some
      | loop l t => exact ih.lp R l t
    refine ⟨fun R f => ?_, fun R fr => ?_, fun R ps => ?_, fun R l tg => ?_, fun R s => ?_⟩
    · simp only [flowNames_succ]
      exact Le.bind (Le.refl _) fun fr => (ih.pn R fr).map _
    · match hps : fr.parents with
      | [] =>
        simp only [parentNames_nil hps]
        refine Le.bind (Le.refl _) fun sc => ?_
        cases sc.parent with
        | none => exact Le.refl _
        | some ps => exact (ih.sc R ps).map _
      | [p] =>
        simp only [parentNames_single hps]
        exact (hpd R p).map _
      | a :: b :: rest =>
        simp only [parentNames_many hps]
        exact (ih.pt R _).map _
    · cases ps with
      | nil => simp only [parentTables_nil]; exact Le.refl _
      | cons p rest =>
        simp only [parentTables_cons]
        exact Le.bind (hpd R p) fun r => (ih.pt R rest).map _
    · simp only [loopNames_succ]
      split
      · exact Le.refl _
      · exact (ih.fl _ tg).map some
    · simp only [scopeNames_succ]
      refine Le.bind (Le.refl _) fun sc => ?_
      cases sc.kind with
      | builtin => exact Le.refl _
      | module => exact (ih.fl R _).map _
      | func => exact ih.fl R _
      | cls => exact Le.bind (Le.refl _) (ih.sc R)

theorem flowNames_mono (g : Graph) {n n' : Nat} (hn : n ≤ n') (R f) :
    Le (flowNames g n R f) (flowNames g n' R f) :=
  (mono g hn).fl R f
theorem parentNames_mono (g : Graph) {n n' : Nat} (hn : n ≤ n') (R fr) :
    Le (parentNames g n R fr) (parentNames g n' R fr) :=
  (mono g hn).pn R fr
theorem parentTables_mono (g : Graph) {n n' : Nat} (hn : n ≤ n') (R ps) :
    Le (parentTables g n R ps) (parentTables g n' R ps) :=
  (mono g hn).pt R ps
theorem loopNames_mono (g : Graph) {n n' : Nat} (hn : n ≤ n') (R l tg) :
    Le (loopNames g n R l tg) (loopNames g n' R l tg) :=
  (mono g hn).lp R l tg
theorem scopeNames_mono (g : Graph) {n n' : Nat} (hn : n ≤ n') (R s) :
    Le (scopeNames g n R s) (scopeNames g n' R s) :=
  (mono g hn).sc R s

theorem flowNames_det (g : Graph) {n n' : Nat} {R f} {a b : Tbl}
    (ha : flowNames g n R f = some a) (hb : flowNames g n' R f = some b) : a = b :=
  Le.det (fun _ _ h => flowNames_mono g h R f) ha hb
theorem parentNames_det (g : Graph) {n n' : Nat} {R fr} {a b : Tbl}
    (ha : parentNames g n R fr = some a) (hb : parentNames g n' R fr = some b) : a = b :=
  Le.det (fun _ _ h => parentNames_mono g h R fr) ha hb

theorem namesAt_mono (g : Graph) {n n' : Nat} (hn : n ≤ n') (R f pos) :
    Le (namesAt g n R f pos) (namesAt g n' R f pos) := by
  simp only [namesAt_eq]
  exact Le.bind (Le.refl _) fun fr => (parentNames_mono g hn R fr).map _

theorem lookupAt_mono (g : Graph) {n n' : Nat} (hn : n ≤ n') (f pos x) :
    Le (lookupAt g n f pos x) (lookupAt g n' f pos x) :=
  (namesAt_mono g hn [] f pos).map _

theorem lookupAt_det (g : Graph) {n n' f : Nat} {pos : Pos} {x : String} {a b : Option Val}
    (ha : lookupAt g n f pos x = some a) (hb : lookupAt g n' f pos x = some b) : a = b :=
  Le.det (fun _ _ h => lookupAt_mono g h f pos x) ha hb

end SuppModel.Flow
