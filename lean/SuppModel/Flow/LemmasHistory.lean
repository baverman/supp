/-
  Histories of queries: what the per-query theorems give for `runQueries`, `runQueriesWith`.
-/
import SuppModel.Flow.LemmasTaggedSim
import SuppModel.Flow.LemmasTaggedLe
import SuppModel.Flow.LemmasTotal
namespace SuppModel.Flow

/-- the pure evaluator's answers to a history (each from a cold start) -/
def pureAnswers (g : Graph) (n : Nat) (qs : List Query) : List (Option (Option Val)) :=
  qs.map fun q => lookupAt g n q.flow q.pos q.key

theorem runQueriesWith_sound (strict : Bool) (g : Graph) (n : Nat) (qs : List Query) :
    ∀ (m : CMemo), AllValid g m → m.resolving = [] → ∀ (i : Nat) (q : Query) (a : Option Val),
      qs[i]? = some q → (runQueriesWith strict g n m qs)[i]? = some (some a) →
      ∃ n', lookupAt g n' q.flow q.pos q.key = some a := by
  induction qs with
  | nil => intro m _ _ i q a hq; simp at hq
  | cons q0 qs ih =>
    intro m hok hres i q a hq ha
    rw [runQueriesWith] at ha
    cases hc : cNamesAt strict g n m q0.flow q0.pos with
    | none =>
      rw [hc] at ha
      cases i with
      | zero => simp at ha
      | succ i => exact ih m hok hres i q a hq ha
    | some r =>
      rw [hc] at ha
      obtain ⟨hok1, hres1, n', hn'⟩ := cNamesAt_sound hok hres r hc
      cases i with
      | zero =>
        obtain rfl : q0 = q := by simpa using hq
        obtain rfl : r.2.get? q0.key = a := by simpa using ha
        exact ⟨n', by unfold lookupAt; rw [hn']; rfl⟩
      | succ i => exact ih r.1 hok1 hres1 i q a hq ha

/-- a history the pure evaluator answers is answered in full by a memoised evaluator that never
    gives up.  `σ`, `res`: `Memo` or `CMemo` with its `resolving`; `run`, `step`: `runQueries` and
    `mNamesAt`, or `runQueriesWith false` and `cNamesAt false` -/
theorem run_total {σ : Type} {res : σ → List Res} {g : Graph} {n : Nat}
    {step : σ → Nat → Pos → Option (σ × Tbl)} {run : σ → List Query → List (Option (Option Val))}
    (hnil : ∀ m, run m [] = [])
    (hcons : ∀ m q qs r, step m q.flow q.pos = some r →
      run m (q :: qs) = some (r.2.get? q.key) :: run r.1 qs)
    (hstep : ∀ m f pos, Tot res m (namesAt g n (loops (res m)) f pos) (step m f pos))
    (qs : List Query) :
    ∀ m, res m = [] → (∀ q' ∈ qs, (lookupAt g n q'.flow q'.pos q'.key).isSome) →
      (run m qs).all Option.isSome = true ∧
      ∀ (i : Nat) (q : Query), qs[i]? = some q → ((run m qs)[i]?.bind id).isSome := by
  induction qs with
  | nil => intro m _ _; exact ⟨by rw [hnil]; rfl, fun i q hq => by simp at hq⟩
  | cons q0 qs ih =>
    intro m hm hall
    obtain ⟨a, ha⟩ := Option.isSome_iff_exists.mp (hall q0 (List.mem_cons_self ..))
    obtain ⟨t, ht, -⟩ := Option.map_eq_some_iff.mp ha
    obtain ⟨r, hr, hres⟩ := hstep m _ _ t (by rw [hm]; exact ht)
    obtain ⟨h1, h2⟩ := ih r.1 (hres.trans hm) fun q' hq' => hall q' (List.mem_cons_of_mem _ hq')
    rw [hcons m q0 qs r hr]
    refine ⟨by rw [List.all_cons, h1]; rfl, fun i q hq => ?_⟩
    cases i with
    | zero => rfl
    | succ i => exact h2 i q hq

theorem runQueries_total (g : Graph) (n : Nat) (qs : List Query) :
    ∀ (m : Memo), m.resolving = [] →
      (∀ q' ∈ qs, (lookupAt g n q'.flow q'.pos q'.key).isSome) →
      ∀ (i : Nat) (q : Query), qs[i]? = some q → ((runQueries g n m qs)[i]?.bind id).isSome :=
  fun m hm hall =>
    (run_total (fun _ => rfl) (fun _ _ _ _ h => by rw [runQueries, h]) (mNamesAt_total g n) qs m hm hall).2

theorem runQueriesExact_total (g : Graph) (n : Nat) (qs : List Query) :
    ∀ (m : CMemo), m.resolving = [] →
      (∀ q' ∈ qs, (lookupAt g n q'.flow q'.pos q'.key).isSome) →
      ∀ (i : Nat) (q : Query), qs[i]? = some q → ((runQueriesExact g n m qs)[i]?.bind id).isSome :=
  fun m hm hall =>
    (run_total (fun _ => rfl) (fun _ _ _ _ h => by unfold runQueriesExact; rw [runQueriesWith, h])
      (cNamesAt_total g n) qs m hm hall).2

theorem runQueries_eq_checked {g : Graph} {n : Nat} (qs : List Query) :
    ∀ m : CMemo, (runQueriesChecked g n m qs).all Option.isSome = true →
      runQueries g n m.erase qs = runQueriesChecked g n m qs := by
  unfold runQueriesChecked
  induction qs with
  | nil => intros; rfl
  | cons q qs ih =>
    intro m h
    rw [runQueriesWith] at h ⊢
    cases hc : cNamesAt true g n m q.flow q.pos with
    | none => simp [hc] at h
    | some r =>
      rw [hc, List.all_cons, Bool.and_eq_true] at h
      rw [runQueries, cNamesAt_le g n hc]
      exact congrArg _ (ih r.1 h.2)

theorem runQueriesWith_eq_pure_of_answers {strict : Bool} {g : Graph} {n : Nat} (qs : List Query) :
    ∀ m : CMemo, AllValid g m → m.resolving = [] →
      (∀ q ∈ qs, (lookupAt g n q.flow q.pos q.key).isSome) →
      (runQueriesWith strict g n m qs).all Option.isSome = true →
      runQueriesWith strict g n m qs = pureAnswers g n qs := by
  induction qs with
  | nil => intros; rfl
  | cons q qs ih =>
    intro m hok hres hall h
    rw [runQueriesWith] at h ⊢
    cases hc : cNamesAt strict g n m q.flow q.pos with
    | none => simp [hc] at h
    | some r =>
      rw [hc, List.all_cons, Bool.and_eq_true] at h
      obtain ⟨hok1, hres1, n', hn'⟩ := cNamesAt_sound hok hres r hc
      obtain ⟨a, ha⟩ := Option.isSome_iff_exists.mp (hall q (List.mem_cons_self ..))
      have hat : a = r.2.get? q.key :=
        lookupAt_det g (n' := n') ha (by unfold lookupAt; rw [hn']; rfl)
      rw [pureAnswers, List.map_cons, ha, hat]
      exact congrArg _ (ih r.1 hok1 hres1 (fun q' h' => hall q' (List.mem_cons_of_mem _ h')) h.2)

theorem runQueriesExact_eq_pure {g : Graph} {n : Nat} (qs : List Query) (m : CMemo)
    (hok : AllValid g m) (hres : m.resolving = [])
    (hall : ∀ q ∈ qs, (lookupAt g n q.flow q.pos q.key).isSome) :
    runQueriesWith false g n m qs = pureAnswers g n qs :=
  runQueriesWith_eq_pure_of_answers qs m hok hres hall
    (run_total (fun _ => rfl) (fun _ _ _ _ h => by rw [runQueriesWith, h]) (cNamesAt_total g n)
      qs m hres hall).1

theorem runQueriesExact_beq_of_pure {g : Graph} {n : Nat} {qs : List Query}
    (hs : ∀ q ∈ qs, (lookupAt g n q.flow q.pos q.key).isSome)
    (hm : (runQueries g n {} qs == pureAnswers g n qs) = true) :
    (runQueriesExact g n {} qs == runQueries g n {} qs) = true := by
  rw [beq_iff_eq] at hm ⊢
  exact (runQueriesExact_eq_pure qs {} (AllValid.empty g) rfl hs).trans hm.symm

theorem covered_of_checked_answers {g : Graph} {n : Nat} {qs : List Query}
    (hs : ∀ q ∈ qs, (lookupAt g n q.flow q.pos q.key).isSome)
    (hc : (runQueriesChecked g n {} qs).all Option.isSome = true) :
    (runQueriesChecked g n {} qs == runQueries g n {} qs &&
      runQueriesExact g n {} qs == runQueries g n {} qs &&
      runQueries g n {} qs == pureAnswers g n qs) = true ∧
      (runQueries g n {} qs).all Option.isSome = true := by
  have hm : runQueries g n {} qs = runQueriesChecked g n {} qs := runQueries_eq_checked qs {} hc
  have hp : runQueriesChecked g n {} qs = pureAnswers g n qs :=
    runQueriesWith_eq_pure_of_answers qs {} (AllValid.empty g) rfl hs hc
  have he := runQueriesExact_beq_of_pure hs (beq_iff_eq.mpr (hm.trans hp))
  rw [hm] at he ⊢
  rw [he]
  exact ⟨by simp [hp], hc⟩

theorem mem_of_mem_rotate {α} {l : List α} {k : Nat} {a : α} (h : a ∈ l.drop k ++ l.take k) : a ∈ l :=
  (List.mem_append.mp h).elim List.mem_of_mem_drop List.mem_of_mem_take

end SuppModel.Flow
