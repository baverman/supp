/-
  The checked evaluator of Checked.lean is a memoisation of the pure evaluator, for every graph
  and every history, whether it gives up on an unsafe entry (`strict = true`) or recomputes
  (`strict = false`): the proof only uses that a REUSED entry is in the cache, has the right key,
  is usable and is safe (`hit?_some`).

  INFORMAL ARGUMENT.  Write loops(d) for the loop ids of a list of resolutions.  A cache entry
  e = (k, t, deps, used) is VALID if there is a tagged derivation (LemmasTagged.lean)
        Ev  W := loops(deps) ++ used   R := loops(deps)   k ↦ t :
  "with exactly the loops of `deps` cut, the pure evaluator gives t for k, consulting only loops
  of `deps` and `used`".  Validity does not mention the memo state, so entries stay valid for ever;
  what depends on the state is whether a valid entry may be REUSED:
    * usable (Memo.lean's test): deps ⊆ m.resolving, so loops(deps) ⊆ R(m) := loops(m.resolving);
    * safe (the added check): used ∩ R(m) = ∅.
  Then R(m) and loops(deps) agree on every loop of W (a loop of `deps` is in both, a loop of
  `used` is in neither), and by locality (`Ev.local`) the derivation is one under R(m): a reused
  table IS the pure value under R(m).
  Every call started in m (all entries valid) and returning (m', o, d, u) for the call c satisfies
  `Good`: all entries of m' are valid, m'.resolving = m.resolving, d ⊆ m.resolving,
  u ∩ R(m) = ∅, and Ev (loops d ++ u) R(m) c ↦ o.  By induction on the fuel:
    * hit: above;  computed value: `Good` of the sub-calls (same `resolving`, hence same R) + one
      rule of `Ev`, W enlarged by `Ev.weaken`;
    * store (k, t, d, u): R(m) and loops(d) agree on loops(d) ++ u, so by locality again the new
      entry is valid;
    * loop l in progress with number n: `Ev.lpCut`, d = [(l,n)] ⊆ m.resolving;
    * loop l resolved: the target is evaluated in m1 = m + (l,n): R(m1) = l :: R(m), entries
      unchanged; `Good` for the target gives Ev (loops d ++ u) (l :: R(m)); rule `Ev.lpRes` with
      W := loops(d minus l) ++ (l :: u); popping (l,n) restores m.resolving because l was not in
      progress before.
  Between queries `resolving = []`, so the answer to a query is the pure value under R = [].
  The resolution NUMBERS play no role in this argument: with the `used` check, soundness only
  needs the loop ids.
-/
import SuppModel.Flow.LemmasTagged
import SuppModel.Flow.LemmasMemoState
namespace SuppModel.Flow

/-- what a cache entry for key `k` claims -/
def KeyEv (g : Graph) (W R : List Nat) : Key → Tbl → Prop
  | .names f, t => Ev g W R (.fl f) (.t t)
  | .pnames f, t => ∀ fr, g.flow? f = some fr → Ev g W R (.pn fr) (.t t)
  | .loop l tg, t => Ev g W R (.lp l tg) (.o (some t))

theorem KeyEv.local {g W R k t} (h : KeyEv g W R k t) (R' : List Nat)
    (hag : ∀ l ∈ W, R.contains l = R'.contains l) : KeyEv g W R' k t := by
  cases k with
  | pnames f => exact fun fr hfr => (h fr hfr).local R' hag
  | _ => exact Ev.local h R' hag

def CEntry.Valid (g : Graph) (e : CEntry) : Prop :=
  KeyEv g (loops e.deps ++ e.used) (loops e.deps) e.key e.tbl

def AllValid (g : Graph) (m : CMemo) : Prop := ∀ e ∈ m.entries, e.Valid g

theorem AllValid.empty (g : Graph) : AllValid g {} := by
  intro e he; cases he

/-- `S` and `d ⊆ S` agree on the loops of `d` and on loops outside `S` -/
theorem agree {d S : Deps} {u : List Nat} (hd : ∀ r ∈ d, r ∈ S) (hu : ∀ l ∈ u, l ∉ loops S) :
    ∀ l ∈ loops d ++ u, (loops d).contains l = (loops S).contains l := by
  intro l hl
  have hsub : l ∈ loops d → l ∈ loops S := fun h => by
    obtain ⟨r, hr, rfl⟩ := List.mem_map.mp h
    exact mem_loops_of_mem (hd r hr)
  simp only [List.contains_eq_mem]
  exact decide_eq_decide.mpr
    ⟨hsub, fun h => (List.mem_append.mp hl).elim id fun h' => absurd h (hu l h')⟩

variable {g : Graph} {m m1 m2 : CMemo} {d : Deps} {u : List Nat} {c c' : Call} {o o' : Out}

structure Good (g : Graph) (m m' : CMemo) (d : Deps) (u : List Nat) (c : Call) (o : Out) : Prop where
  valid : AllValid g m'
  res : m'.resolving = m.resolving
  dsub : ∀ r ∈ d, r ∈ m.resolving
  udis : ∀ l ∈ u, l ∉ loops m.resolving
  ev : Ev g (loops d ++ u) (loops m.resolving) c o

theorem Good.leaf (hok : AllValid g m) (hev : Ev g [] (loops m.resolving) c o) :
    Good g m m [] [] c o :=
  ⟨hok, rfl, nofun, nofun, hev⟩

theorem Good.map (h1 : Good g m m1 d u c o) (hev : ∀ {W R}, Ev g W R c o → Ev g W R c' o') :
    Good g m m1 d u c' o' :=
  ⟨h1.valid, h1.res, h1.dsub, h1.udis, hev h1.ev⟩

theorem Good.store (h1 : Good g m m1 d u c o) {k : Key} {t : Tbl}
    (hk : KeyEv g (loops d ++ u) (loops m.resolving) k t) : Good g m (m1.put k t d u) d u c o := by
  refine ⟨fun e he => ?_, h1.res, h1.dsub, h1.udis, h1.ev⟩
  rcases List.mem_cons.mp he with rfl | he
  · exact hk.local _ fun l hl => (agree h1.dsub h1.udis l hl).symm
  · exact h1.valid e he

theorem mem_loops_union {a b : Deps} {l : Nat} : l ∈ loops (a.union b) ↔ l ∈ loops a ∨ l ∈ loops b := by
  simp only [loops, List.mem_map, mem_union, or_and_right, exists_or]

theorem Good.seq {d1 d2 : Deps} {u1 u2 : List Nat} {c1 c2 : Call} {o1 o2 : Out}
    (h1 : Good g m m1 d1 u1 c1 o1) (h2 : Good g m1 m2 d2 u2 c2 o2)
    (hev : ∀ {W R}, Ev g W R c1 o1 → Ev g W R c2 o2 → Ev g W R c o) :
    Good g m m2 (d1.union d2) (u1 ++ u2) c o := by
  have hres := h1.res
  refine ⟨h2.valid, h2.res.trans hres, ?_, ?_, hev (h1.ev.weaken ?_) ((hres ▸ h2.ev).weaken ?_)⟩
  · exact fun r hr => (mem_union.mp hr).elim (h1.dsub r) fun h => hres ▸ h2.dsub r h
  · exact fun l hl => (List.mem_append.mp hl).elim (h1.udis l) fun h => hres ▸ h2.udis l h
  · exact fun l hl => (List.mem_append.mp hl).elim
      (fun h => List.mem_append_left _ (mem_loops_union.mpr (Or.inl h)))
      (fun h => List.mem_append_right _ (List.mem_append_left _ h))
  · exact fun l hl => (List.mem_append.mp hl).elim
      (fun h => List.mem_append_left _ (mem_loops_union.mpr (Or.inr h)))
      (fun h => List.mem_append_right _ (List.mem_append_right _ h))

theorem Good.resolve {l tg n : Nat} {t : Tbl} (hno : ∀ r ∈ m.resolving, r.1 ≠ l)
    (h : Good g { m with started := n, resolving := (l, n) :: m.resolving } m2 d u (.fl tg) (.t t)) :
    Good g m { m2 with resolving := m2.resolving.filter (fun r => r.1 ≠ l) }
      (d.filter (fun r => r.1 ≠ l)) (l :: u) (.lp l tg) (.o (some t)) := by
  have hnotin := not_mem_loops hno
  refine ⟨h.valid, (congrArg _ h.res).trans (filter_push hno), fun r hr => ?_, fun x hx => ?_,
    Ev.lpRes (by simpa using hnotin) (by simp) (h.ev.weaken fun x hx => ?_)⟩
  · obtain ⟨hr1, hr2⟩ := List.mem_filter.mp hr
    exact (List.mem_cons.mp (h.dsub r hr1)).resolve_left fun e => by simp [e] at hr2
  · exact (List.mem_cons.mp hx).elim (· ▸ hnotin) fun hx hx' => h.udis x hx (List.mem_cons_of_mem _ hx')
  · rcases List.mem_append.mp hx with h' | h'
    · obtain ⟨r, hr, rfl⟩ := List.mem_map.mp h'
      by_cases hrl : r.1 = l
      · simp [hrl]
      · exact List.mem_append_left _ (mem_loops_of_mem (List.mem_filter.mpr ⟨hr, by simpa using hrl⟩))
    · exact List.mem_append_right _ (List.mem_cons_of_mem _ h')

abbrev Ret {α} (g : Graph) (m : CMemo) (c : Call) (w : α → Out) (r : CMemo × α × Deps × List Nat) :
    Prop :=
  Good g m r.1 r.2.2.1 r.2.2.2 c (w r.2.1)

/-- the lookup of `cFlowNames`, `cParentNames` and `cLoopNames`, for a key `k` that stands for the call `c` -/
theorem Ret.hit {α} {strict : Bool} {k : Key} {w : α → Out} {ret : Tbl → α}
    {X : Option (CMemo × α × Deps × List Nat)} (hok : AllValid g m)
    (hc : ∀ {W R t}, KeyEv g W R k t → Ev g W R c (w (ret t))) (hX : Post (Ret g m c w) X) :
    Post (Ret g m c w)
      (match m.hit? strict k with
        | none => none
        | some (some e) => some (m, ret e.tbl, e.deps, e.used)
        | some none => X) := by
  cases hs : m.hit? strict k with
  | none => exact Post.none
  | some oe =>
    cases oe with
    | none => exact hX
    | some e =>
      obtain ⟨hmem, hkey, huse, hsafe⟩ := hit?_some hs
      have hd := usable_iff.mp huse
      have hu := safe_iff.mp hsafe
      exact Post.pure ⟨hok, rfl, hd, hu, hc (hkey ▸ (hok e hmem).local _ (agree hd hu))⟩

structure Sim (strict : Bool) (g : Graph) (n : Nat) : Prop where
  fl : ∀ (m : CMemo) f, AllValid g m → Post (Ret g m (.fl f) .t) (cFlowNames strict g n m f)
  pn : ∀ (m : CMemo) {f} fr, g.flow? f = some fr → AllValid g m →
        Post (Ret g m (.pn fr) .t) (cParentNames strict g n m fr)
  pt : ∀ (m : CMemo) ps, AllValid g m → Post (Ret g m (.pt ps) .ts) (cParentTables strict g n m ps)
  lp : ∀ (m : CMemo) l tg, AllValid g m → Post (Ret g m (.lp l tg) .o) (cLoopNames strict g n m l tg)
  sc : ∀ (m : CMemo) s, AllValid g m → Post (Ret g m (.sc s) .t) (cScopeNames strict g n m s)

theorem sim (strict : Bool) (g : Graph) : ∀ n, Sim strict g n := by
  intro n
  induction n with
  | zero =>
    constructor <;> intros <;>
      simp only [cFlowNames, cParentNames, cParentTables, cLoopNames, cScopeNames] <;> exact Post.none
  | succ n ih =>
    constructor
    · intro m f hok
      rw [cFlowNames]
      refine Ret.hit (ret := id) hok id ?_
      cases hfr : g.flow? f with
      | none => exact Post.none
      | some fr =>
        refine (ih.pn m fr hfr hok).bind fun _ h1 => Post.pure ?_
        have h2 := h1.map (Ev.fl hfr)
        exact h2.store (k := .names f) h2.ev
    · intro m f fr hfr hok
      cases flow?_id hfr
      rw [cParentNames]
      refine Ret.hit (ret := id) hok (fun h => h fr hfr) ?_
      refine Post.bind (P := Ret g m (.pn fr) .t) ?_ fun _ hg => Post.pure
        (hg.store (k := .pnames fr.id) fun _ hfr' => Option.some.inj (hfr.symm.trans hfr') ▸ hg.ev)
      generalize hps : fr.parents = ps
      match ps, hps with
      | [], hps =>
        cases hsc : g.scope? fr.scope with
        | none => exact Post.none
        | some sc =>
          dsimp only
          cases hpar : sc.parent with
          | none => exact Post.pure (Good.leaf hok (Ev.pnRoot hps hsc hpar))
          | some ps' =>
            refine (ih.sc m ps' hok).bind fun _ h => ?_
            have h' := Good.map h (Ev.pnScope hps hsc hpar)
            unfold scopeWrap at h'
            revert h'
            cases sc.kind <;> exact fun h' => Post.pure h'
      | [Parent.flow p], hps => exact (ih.fl m p hok).imp fun _ h => Good.map h (Ev.pnFlow hps)
      | [Parent.loop l tg], hps =>
        exact (ih.lp m l tg hok).bind fun _ h => Post.pure (Good.map h (Ev.pnLoop hps))
      | a :: b :: rest, hps =>
        simp only []
        exact (ih.pt m _ hok).bind fun _ h => Post.pure (Good.map h (Ev.pnMany hps))
    · intro m ps hok
      match ps with
      | [] => rw [cParentTables]; exact Post.pure (Good.leaf hok Ev.ptNil)
      | Parent.flow p :: rest =>
        rw [cParentTables]
        refine (ih.fl m p hok).bind fun _ g1 => (ih.pt _ rest g1.valid).bind fun _ g2 => Post.pure ?_
        exact Good.seq g1 g2 Ev.ptFlow
      | Parent.loop l tg :: rest =>
        rw [cParentTables]
        refine (ih.lp m l tg hok).bind fun r g1 => (ih.pt _ rest g1.valid).bind fun _ g2 => ?_
        have g3 := Good.seq g1 g2 Ev.ptLoop
        cases hr : r.2.1 <;> rw [hr] at g3 <;> exact Post.pure g3
    · intro m l tg hok
      rw [cLoopNames]
      cases hip : m.inProgress? l with
      | some k =>
        have hmem := inProgress_some hip
        exact Post.pure ⟨hok, rfl, fun r hr => List.mem_singleton.mp hr ▸ hmem, nofun,
          Ev.lpCut (List.contains_iff_mem.mpr (mem_loops_of_mem hmem)) (.head _)⟩
      | none =>
        refine Ret.hit (ret := some) hok id ?_
        refine (ih.fl { m with started := m.started + 1, resolving := (l, m.started + 1) :: m.resolving }
          tg hok).bind fun _ g1 => Post.pure ?_
        have g2 := g1.resolve (inProgress_none hip)
        exact g2.store g2.ev
    · intro m s hok
      rw [cScopeNames]
      cases hsc : g.scope? s with
      | none => exact Post.none
      | some sc =>
        dsimp only
        cases hk : sc.kind with
        | builtin => exact Post.pure (Good.leaf hok (Ev.scBuiltin hsc hk))
        | module => exact (ih.fl m sc.final hok).bind fun _ h => Post.pure (Good.map h (Ev.scModule hsc hk))
        | func => exact (ih.fl m sc.final hok).imp fun _ h => Good.map h (Ev.scFunc hsc hk)
        | cls =>
          dsimp only
          cases hp : sc.parent with
          | none => exact Post.none
          | some p => exact (ih.sc m p hok).imp fun _ h => Good.map h (Ev.scCls hsc hk hp)

theorem cNamesAt_sound {strict : Bool} {g : Graph} {n : Nat} {m : CMemo} {f : Nat} {pos : Pos}
    (hok : AllValid g m) (hres : m.resolving = []) :
    Post (fun r => AllValid g r.1 ∧ r.1.resolving = [] ∧ ∃ n', namesAt g n' [] f pos = some r.2)
      (cNamesAt strict g n m f pos) := by
  unfold cNamesAt
  cases hfr : g.flow? f with
  | none => exact Post.none
  | some fr =>
    refine ((sim strict g n).pn m fr hfr hok).bind fun r g1 => Post.pure ?_
    have hp := g1.ev.pure
    rw [hres] at hp
    obtain ⟨n', hn'⟩ : EvPn g [] fr r.2.1 := hp
    exact ⟨g1.valid, g1.res.trans hres, n', by unfold namesAt; simp [hfr, hn']⟩

end SuppModel.Flow
