/- Fs family: lemmas behind C07_find (get_module's search loop = importlib's PathFinder on the C07 domain):
   one component in one directory (`leaf_agrees`), one chain of directories under a path entry (`chain_agrees`),
   the path entries in order (`find_agrees`).  All three have the shape `X.map Loc.file? = Y.map (some ·.1)`:
   importlib finds nothing exactly when supp's loop finds nothing, and otherwise a file (never a namespace
   package), the one supp's loop finds. -/
import SuppModel.Fs.LemmasBasic
namespace SuppModel.Fs

namespace Find
theorem find?_unique {α} (p : α → Bool) (l l' : List α) (hlen : (l.filter p).length ≤ 1)
    (hmem : ∀ s, s ∈ l ↔ s ∈ l') : l.find? p = l'.find? p := by
  cases h' : l'.find? p with
  | none => exact List.find?_eq_none.mpr fun s hs => List.find?_eq_none.mp h' s ((hmem s).mp hs)
  | some s =>
    -- what `l'` finds lies in `l.filter p`, which has no other element
    have hs := List.mem_filter.mpr ⟨(hmem s).mpr (List.mem_of_find?_eq_some h'), List.find?_some h'⟩
    rw [← List.head?_filter]
    match l.filter p, hlen, hs with
    | [a], _, hs => rw [List.mem_singleton.mp hs]; rfl
    | _ :: _ :: _, h, _ => simp at h
end Find

theorem find?_congr_mem {α} {p q : α → Bool} {l : List α} (h : ∀ s ∈ l, p s = q s) :
    l.find? p = l.find? q := by
  rw [← List.head?_filter, ← List.head?_filter, List.filter_congr h]

theorem find?_append_comm {α} (p : α → Bool) (a b : List α) (h : (a.any p && b.any p) = false) :
    (a ++ b).find? p = (b ++ a).find? p := by
  rw [List.find?_append, List.find?_append]
  rcases Bool.and_eq_false_iff.mp h with h | h
  · rw [List.find?_eq_none.mpr (List.any_eq_false.mp h)]
    cases b.find? p <;> rfl
  · rw [List.find?_eq_none.mpr (List.any_eq_false.mp h)]
    cases a.find? p <;> rfl

theorem bind_eq_map_of_map_eq {α β γ : Type} {x : Option α} {y : Option β} {f : α → Option γ} {g : β → γ}
    (h : x.map f = y.map fun b => some (g b)) : x.bind f = y.map g := by
  cases x <;> cases y <;> simp_all

variable {sfx src lsfx : List Str} {fs : Fs} {d r : Path} {c c' : Str} {t comps : List Str} {roots : List Path}

theorem finder_nodir (hd : fs.isDir (d ++ [c]) = false) :
    finder lsfx fs d c = match lsfx.find? (fun s => fs.isFile (d ++ [c ++ s])) with
      | some s => .spec (d ++ [c ++ s]) none
      | none => .nothing := by
  simp only [finder, hd]
  rfl

/-- the `__init__<s>` the finder answers need not be `__init__.py`: a loader suffix before `.py` may match too
    (`regularAt` excludes that at the leaf; above the leaf only the package directory matters) -/
theorem finder_pkg (hpy : PY ∈ lsfx) (hf : fs.isFile (d ++ [c, INIT_PY]) = true) :
    ∃ s, s ∈ lsfx ∧ fs.isFile (d ++ [c, INIT ++ s]) = true ∧
      finder lsfx fs d c = .spec (d ++ [c, INIT ++ s]) (some (d ++ [c])) := by
  have hd : fs.isDir (d ++ [c]) = true :=
    isDir_of_exists_append (q := [INIT_PY]) (List.cons_ne_nil _ _) (by simpa using exists_of_isFile hf)
  cases h : lsfx.find? (fun s => fs.isFile (d ++ [c, INIT ++ s])) with
  | none => exact absurd hf (List.find?_eq_none.mp h PY hpy)
  | some s =>
    refine ⟨s, List.mem_of_find?_eq_some h, by simpa using List.find?_some h, ?_⟩
    simp only [finder, hd, if_true, List.append_assoc, List.cons_append, List.nil_append, h]

theorem finder_not_portion (hpy : PY ∈ lsfx)
    (hns : fs.isDir (r ++ [c]) = true → fs.isFile (r ++ [c, INIT_PY]) = true) (p : Path) :
    finder lsfx fs r c ≠ .portion p := by
  cases hd : fs.isDir (r ++ [c]) with
  | true =>
    obtain ⟨s0, _, _, hfind⟩ := finder_pkg hpy (hns hd)
    rw [hfind]; exact nofun
  | false =>
    rw [finder_nodir hd]
    cases lsfx.find? (fun s => fs.isFile (r ++ [c ++ s])) <;> exact nofun

theorem pathFind_single :
    pathFind lsfx fs [d] c [] = match finder lsfx fs d c with
      | .spec f p => some (.file f p)
      | .portion p => some (.ns [p])
      | .nothing => none := by
  rw [pathFind]
  cases finder lsfx fs d c <;> rfl

theorem importlibFindC_cons_nothing {rs : List Path} (h : finder lsfx fs r c = .nothing) :
    importlibFindC lsfx fs (r :: rs) (c :: t) = importlibFindC lsfx fs rs (c :: t) := by
  cases t <;> simp only [importlibFindC, pathFind, h]

theorem importlibFindC_cons_spec {rs : List Path} {f : Path} {p : Option Path} (h : finder lsfx fs r c = .spec f p) :
    importlibFindC lsfx fs (r :: rs) (c :: t) = importlibFindC lsfx fs [r] (c :: t) := by
  cases t <;> simp only [importlibFindC, pathFind, h]

theorem importlibFindC_nil_roots :
    importlibFindC lsfx fs [] comps = none := by
  match comps with
  | [] => rfl
  | [c] => rfl
  | c :: c' :: rest => rfl

theorem pkgClashFreeAt_iff :
    pkgClashFreeAt sfx fs d c = true ↔
      (fs.exists (d ++ [c, INIT_PY]) = true → ∀ s ∈ sfx, fs.exists (d ++ [c ++ s]) = false) := by
  simp [pkgClashFreeAt, Decidable.imp_iff_not_or]

theorem regularAt_iff :
    regularAt sfx fs d c = true ↔
      (∀ s ∈ sfx, fs.isDir (d ++ [c ++ s]) = false) ∧
      (∀ s ∈ sfx, fs.isFile (d ++ [c, INIT ++ s]) = true → s = PY) := by
  simp only [regularAt, Bool.and_eq_true, List.all_eq_true, Bool.or_eq_true, Bool.not_eq_true', beq_iff_eq]
  exact and_congr_right fun _ => forall₂_congr fun s _ => by cases fs.isFile (d ++ [c, INIT ++ s]) <;> simp

theorem leaf_agrees
    (hs : SameSuffixes sfx lsfx = true)
    (hns : fs.isDir (d ++ [c]) = true → fs.isFile (d ++ [c, INIT_PY]) = true)
    (hcl : pkgClashFreeAt sfx fs d c = true)
    (hsc : sameChoiceAt sfx lsfx fs d c = true)
    (hreg : regularAt sfx fs d c = true) :
    (pathFind lsfx fs [d] c []).map Loc.file? = (findIn sfx src fs (d ++ [c])).map (fun x => some x.1) := by
  obtain ⟨hmem, hpy⟩ := sameSuffixes_mem hs
  obtain ⟨hreg1, hreg2⟩ := regularAt_iff.mp hreg
  rw [pathFind_single, findIn_snoc]
  cases hd : fs.isDir (d ++ [c]) with
  | true =>
    -- a package: the finder answers `__init__.py`, and so does supp since no module file `c<suffix>` is around
    have hf := hns hd
    obtain ⟨s0, hs0, hfs0, hfind⟩ := finder_pkg hpy hf
    obtain rfl := hreg2 s0 ((hmem s0).mpr hs0) hfs0
    have hex := exists_of_isFile hf
    rw [hfind, List.find?_eq_none.mpr fun s hs => Bool.eq_false_iff.mp (pkgClashFreeAt_iff.mp hcl hex s hs),
      if_pos hex]
    rfl
  | false =>
    -- no package: both take the first suffix with a module file, in orders that agree by `sameChoiceAt`
    have hex : fs.exists (d ++ [c, INIT_PY]) = false := by
      simpa using not_exists_append_of_not_isDir (q := [INIT_PY]) (List.cons_ne_nil _ _) hd
    have hfile : lsfx.find? (fun s => fs.exists (d ++ [c ++ s])) = lsfx.find? (fun s => fs.isFile (d ++ [c ++ s])) :=
      find?_congr_mem fun s hs => by rw [Fs.exists, hreg1 s ((hmem s).mpr hs), Bool.or_false]
    rw [finder_nodir hd, hex, eq_of_beq hsc, hfile]
    cases lsfx.find? (fun s => fs.isFile (d ++ [c ++ s])) <;> rfl

/-- the domain of C07 along the chain `d/c1/../cn` under one path entry -/
structure ChainDom (sfx lsfx : List Str) (fs : Fs) (d : Path) (comps : List Str) : Prop where
  ns : nsFreeChain fs d comps = true
  clash : atLeaf (pkgClashFreeAt sfx fs) d comps = true
  choice : atLeaf (sameChoiceAt sfx lsfx fs) d comps = true
  regular : atLeaf (regularAt sfx fs) d comps = true

theorem ChainDom.head (h : ChainDom sfx lsfx fs d (c :: t)) (hd : fs.isDir (d ++ [c]) = true) :
    fs.isFile (d ++ [c, INIT_PY]) = true := by
  simpa [hd] using (Bool.and_eq_true_iff.mp h.ns).1

theorem ChainDom.tail (h : ChainDom sfx lsfx fs d (c :: c' :: t)) : ChainDom sfx lsfx fs (d ++ [c]) (c' :: t) :=
  ⟨(Bool.and_eq_true_iff.mp h.ns).2, h.clash, h.choice, h.regular⟩

theorem findIn_none_of_not_isDir {p q : Path} (hq : q ≠ []) (hd : fs.isDir p = false) :
    findIn sfx src fs (p ++ q) = none := by
  rw [findIn, List.append_assoc, not_exists_append_of_not_isDir (List.append_ne_nil_of_left_ne_nil hq _) hd,
    List.find?_eq_none.mpr fun s _ => Bool.eq_false_iff.mp
      (addSuffix_append p q hq s ▸ not_exists_append_of_not_isDir (addSuffix_ne_nil q s) hd)]
  rfl

theorem chain_agrees (hs : SameSuffixes sfx lsfx = true) (h : ChainDom sfx lsfx fs d (c :: t)) :
    (importlibFindC lsfx fs [d] (c :: t)).map Loc.file?
      = (findIn sfx src fs (d ++ c :: t)).map (fun x => some x.1) := by
  induction t generalizing d c with
  | nil => exact leaf_agrees hs h.head h.clash h.choice h.regular
  | cons c' rest ih =>
    rw [importlibFindC, pathFind_single]
    cases hd : fs.isDir (d ++ [c]) with
    | true =>
      obtain ⟨s0, _, _, hfind⟩ := finder_pkg (sameSuffixes_mem hs).2 (h.head hd)
      rw [hfind, List.append_cons d c (c' :: rest)]
      exact ih h.tail
    | false =>
      rw [List.append_cons, findIn_none_of_not_isDir (List.cons_ne_nil _ _) hd, finder_nodir hd]
      cases lsfx.find? (fun s => fs.isFile (d ++ [c ++ s])) <;> rfl

/-- the split-package check at an entry where supp finds nothing -/
theorem noSplitAux_cons_of_none {c1 : Str} {rs : List Path} (hf : findIn sfx src fs (r ++ comps) = none) :
    noSplitAux sfx src lsfx fs comps c1 (r :: rs) =
      if (finder lsfx fs r c1).isHit then rs.all fun r' => (findIn sfx src fs (r' ++ comps)).isNone
      else noSplitAux sfx src lsfx fs comps c1 rs := by
  rw [noSplitAux, hf]; rfl

theorem find_agrees_aux
    (hs : SameSuffixes sfx lsfx = true)
    (hdom : ∀ r ∈ roots, ChainDom sfx lsfx fs r (c :: t))
    (hsp : NoSplitPackage roots sfx src lsfx fs (c :: t) = true) :
    (importlibFindC lsfx fs roots (c :: t)).map Loc.file?
      = (roots.findSome? (fun p => findIn sfx src fs (p ++ c :: t))).map (fun x => some x.1) := by
  induction roots with
  | nil => rw [importlibFindC_nil_roots]; rfl
  | cons r rs ih =>
    have hr := hdom r List.mem_cons_self
    have hA := chain_agrees (src := src) hs hr
    have ih := ih fun r' hr' => hdom r' (List.mem_cons_of_mem r hr')
    rw [List.findSome?_cons]
    cases h : finder lsfx fs r c with
    | portion p => exact absurd h (finder_not_portion (sameSuffixes_mem hs).2 hr.head p)
    | nothing =>
      -- importlib skips the entry; so does supp, which agrees with importlib below `r`
      rw [importlibFindC_cons_nothing h] at hA ⊢
      rw [importlibFindC_nil_roots] at hA
      have hf := Option.map_eq_none_iff.mp hA.symm
      rw [hf]
      refine ih ?_
      cases t with
      | nil => rfl
      | cons c' rest => exact (h ▸ noSplitAux_cons_of_none hf).symm.trans hsp
    | spec f p =>
      rw [importlibFindC_cons_spec h, hA]
      cases hf : findIn sfx src fs (r ++ c :: t) with
      | some x => rfl
      | none =>
        -- importlib stops at `r` with nothing; a later entry where supp finds the name would be a split package
        rw [hf] at hA
        cases t with
        | nil => rw [importlibFindC, pathFind_single, h] at hA; cases hA
        | cons c' rest =>
          have hsp := (h ▸ noSplitAux_cons_of_none hf).symm.trans hsp
          rw [List.findSome?_eq_none_iff.mpr fun x hx =>
            Option.isNone_iff_eq_none.mp (List.all_eq_true.mp hsp x hx)]

section
variable (hne : comps ≠ [])
  (hs : SameSuffixes sfx lsfx = true)
  (hns : NoNamespaceDirs roots fs comps = true)
  (hcl : NoModulePackageClash roots sfx fs comps = true)
  (hsc : SameChoice roots sfx lsfx fs comps = true)
  (hreg : Regular roots sfx fs comps = true)
  (hsp : NoSplitPackage roots sfx src lsfx fs comps = true)
include hne hs hns hcl hsc hreg hsp

theorem find_agrees :
    (importlibFindC lsfx fs roots comps).map Loc.file?
      = (roots.findSome? (fun p => findIn sfx src fs (p ++ comps))).map (fun x => some x.1) := by
  cases comps with
  | nil => exact absurd rfl hne
  | cons c t =>
    exact find_agrees_aux hs (fun r hr => ⟨List.all_eq_true.mp hns r hr, List.all_eq_true.mp hcl r hr,
      List.all_eq_true.mp hsc r hr, List.all_eq_true.mp hreg r hr⟩) hsp

theorem getModuleC_file?_eq_importlib (inSys : Bool) :
    (getModuleC roots sfx src fs inSys comps).file? = (importlibFindC lsfx fs roots comps).bind Loc.file? := by
  rw [getModuleC_file?, bind_eq_map_of_map_eq (find_agrees hne hs hns hcl hsc hreg hsp)]

theorem getModuleC_importError_iff_importlib_none :
    getModuleC roots sfx src fs false comps = .importError ↔ importlibFindC lsfx fs roots comps = none := by
  rw [getModuleC_eq_importError, ← Option.map_eq_none_iff (f := fun x => some x.1),
    ← find_agrees hne hs hns hcl hsc hreg hsp, Option.map_eq_none_iff]

theorem importlibFindC_of_found {inSys : Bool} {f : Path} {b : Bool}
    (hf : getModuleC roots sfx src fs inSys comps = .found f b) :
    ∃ d, importlibFindC lsfx fs roots comps = some (.file f d) := by
  have h := find_agrees hne hs hns hcl hsc hreg hsp
  rw [getModuleC_eq_found.mp hf] at h
  obtain ⟨loc, hX, hloc⟩ := Option.map_eq_some_iff.mp h
  cases loc with
  | file f' d => cases hloc; exact ⟨d, hX⟩
  | ns ps => cases hloc

end

theorem ne_nil_of_validComps (hv : validComps comps = true) : comps ≠ [] :=
  fun h => by rw [h] at hv; cases hv

theorem sameChoiceAt_of_extFreeAt (nonext ext : List Str) (fs : Fs) (d : Path) (c : Str)
    (h : extFreeAt nonext ext fs d c = true) : sameChoiceAt (nonext ++ ext) (ext ++ nonext) fs d c = true :=
  beq_iff_eq.mpr (find?_append_comm _ _ _ ((Bool.not_eq_true' _).mp h))

theorem atLeaf_mono {P Q : Path → Str → Bool} (hPQ : ∀ d c, P d c = true → Q d c = true)
    (d : Path) (comps : List Str) : atLeaf P d comps = true → atLeaf Q d comps = true := by
  fun_induction atLeaf P d comps with
  | case1 => exact id
  | case2 d c => exact hPQ d c
  | case3 d c c' rest ih => exact ih

theorem sameChoice_of_noExt (roots : List Path) (nonext ext : List Str) (fs : Fs) (comps : List Str)
    (h : NoExtensionNextToSource roots nonext ext fs comps = true) :
    SameChoice roots (nonext ++ ext) (ext ++ nonext) fs comps = true :=
  List.all_eq_true.mpr fun r hr =>
    atLeaf_mono (sameChoiceAt_of_extFreeAt nonext ext fs) r comps (List.all_eq_true.mp h r hr)

end SuppModel.Fs
