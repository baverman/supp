/- Fs family: the file-system parameter (`isDir`, `exists`), `addSuffix`, and `findIn`/`getModuleC` in the forms the
   proofs of C07 use: `findIn` at a path `d/c`, `getModuleC` as the `findSome?` over the path entries. -/
import SuppModel.Fs.Spec
namespace SuppModel.Fs

theorem isDir_iff (fs : Fs) (p : Path) :
    fs.isDir p = true ↔ (∃ d ∈ fs.dirs, p <+: d) ∨ (∃ f ∈ fs.files, p <+: f ∧ p ≠ f) := by
  simp [Fs.isDir, List.any_eq_true, List.isPrefixOf_iff_prefix]

theorem exists_iff (fs : Fs) (p : Path) :
    fs.exists p = true ↔ ∃ q, (q ∈ fs.files ∨ q ∈ fs.dirs) ∧ p <+: q := by
  simp only [Fs.exists, Bool.or_eq_true, isDir_iff, Fs.isFile, List.contains_iff_mem]
  constructor
  · rintro (h | ⟨d, hd, hp⟩ | ⟨f, hf, hp, _⟩)
    · exact ⟨p, Or.inl h, List.prefix_refl p⟩
    · exact ⟨d, Or.inr hd, hp⟩
    · exact ⟨f, Or.inl hf, hp⟩
  · rintro ⟨q, hq | hq, hp⟩
    · by_cases e : p = q
      · exact Or.inl (e ▸ hq)
      · exact Or.inr (Or.inr ⟨q, hq, hp, e⟩)
    · exact Or.inr (Or.inl ⟨q, hq, hp⟩)

theorem exists_of_isFile {fs : Fs} {p : Path} (h : fs.isFile p = true) : fs.exists p = true := by
  rw [Fs.exists, h, Bool.true_or]

namespace Find
theorem isDir_exists {fs : Fs} {p : Path} (h : fs.isDir p = true) : fs.exists p = true := by
  rw [Fs.exists, h, Bool.or_true]
end Find

theorem isDir_of_exists_append {fs : Fs} {p q : Path} (hq : q ≠ []) (h : fs.exists (p ++ q) = true) :
    fs.isDir p = true := by
  obtain ⟨w, hw, t, rfl⟩ := (exists_iff fs _).mp h
  have hp : p <+: p ++ q ++ t := ⟨q ++ t, (List.append_assoc p q t).symm⟩
  refine (isDir_iff fs p).mpr (hw.symm.imp (fun hw => ⟨_, hw, hp⟩) fun hw => ⟨_, hw, hp, fun e => hq ?_⟩)
  have := congrArg List.length e
  rw [List.length_append, List.length_append] at this
  exact List.length_eq_zero_iff.mp (by omega)

theorem not_exists_append_of_not_isDir {fs : Fs} {p q : Path} (hq : q ≠ []) (hd : fs.isDir p = false) :
    fs.exists (p ++ q) = false :=
  Bool.eq_false_iff.mpr fun h => Bool.eq_false_iff.mp hd (isDir_of_exists_append hq h)

theorem addSuffix_ne_nil (p : Path) (s : Str) : addSuffix p s ≠ [] := by
  match p with
  | [] => exact nofun
  | [c] => exact nofun
  | c :: d :: r => exact nofun

theorem addSuffix_append (d : Path) (q : Path) (hq : q ≠ []) (s : Str) :
    addSuffix (d ++ q) s = d ++ addSuffix q s := by
  induction d with
  | nil => rfl
  | cons a t ih =>
    cases h : t ++ q with
    | nil => exact absurd (List.append_eq_nil_iff.mp h).2 hq
    | cons b r => rw [List.cons_append, h, addSuffix, ← h, ih]; rfl

theorem addSuffix_snoc (p : Path) (c s : Str) : addSuffix (p ++ [c]) s = p ++ [c ++ s] :=
  addSuffix_append p [c] (List.cons_ne_nil c []) s

variable {sfx src lsfx : List Str} {fs : Fs} {roots : List Path} {comps : List Str} {inSys : Bool}

theorem findIn_snoc (d : Path) (c : Str) :
    findIn sfx src fs (d ++ [c]) =
      match sfx.find? (fun s => fs.exists (d ++ [c ++ s])) with
      | some s => some (d ++ [c ++ s], src.contains s)
      | none => if fs.exists (d ++ [c, INIT_PY]) then some (d ++ [c, INIT_PY], true) else none := by
  simp only [findIn, addSuffix_snoc, List.append_assoc, List.cons_append, List.nil_append]
  rfl

theorem getModuleC_file? :
    (getModuleC roots sfx src fs inSys comps).file? =
      (roots.findSome? fun p => findIn sfx src fs (p ++ comps)).map (·.1) := by
  rw [getModuleC]
  cases roots.findSome? fun p => findIn sfx src fs (p ++ comps) with
  | none => cases inSys <;> rfl
  | some x => rfl

theorem getModuleC_eq_found {f : Path} {b : Bool} :
    getModuleC roots sfx src fs inSys comps = .found f b ↔
      (roots.findSome? fun p => findIn sfx src fs (p ++ comps)) = some (f, b) := by
  rw [getModuleC]
  cases roots.findSome? fun p => findIn sfx src fs (p ++ comps) with
  | none => cases inSys <;> simp
  | some x => simp [Prod.ext_iff]

theorem getModuleC_eq_importError :
    getModuleC roots sfx src fs false comps = .importError ↔
      (roots.findSome? fun p => findIn sfx src fs (p ++ comps)) = none := by
  rw [getModuleC]
  cases roots.findSome? fun p => findIn sfx src fs (p ++ comps) <;> simp

theorem sameSuffixes_mem (h : SameSuffixes sfx lsfx = true) :
    (∀ s, s ∈ sfx ↔ s ∈ lsfx) ∧ PY ∈ lsfx := by
  simp only [SameSuffixes, Bool.and_eq_true, List.all_eq_true, List.contains_iff_mem] at h
  exact ⟨fun s => ⟨h.1.1 s, h.1.2 s⟩, h.1.1 PY h.2⟩

end SuppModel.Fs
