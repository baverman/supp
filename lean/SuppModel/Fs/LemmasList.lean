/- Fs family: lemmas behind C07_list* (list_packages against pkgutil.iter_modules and against get_module). -/
import SuppModel.Fs.LemmasBasic
namespace SuppModel.Fs

/-- every sub-directory of `dir` that holds some `__init__<suffix>` holds `__init__.py` (source packages) -/
def sourcePkgsAt (lsfx : List Str) (fs : Fs) (dir : Path) : Bool :=
  match fs.listdir dir with
  | none => true
  | some names => names.all (fun n => !lsfx.any (fun s => fs.exists (dir ++ [n, INIT ++ s])) || fs.exists (dir ++ [n, INIT_PY]))

variable {sfx src lsfx : List Str} {fs : Fs} {dir r : Path} {e n s : Str} {roots : List Path} {sysm : List Str}
  {root : Str}

theorem prefix_snoc_iff (dir q : Path) (e : Str) :
    (dir ++ [e]) <+: q ↔ dir <+: q ∧ q[dir.length]? = some e := by
  constructor
  · rintro ⟨t, rfl⟩
    exact ⟨⟨[e] ++ t, (List.append_assoc ..).symm⟩, by simp⟩
  · rintro ⟨⟨t, rfl⟩, h⟩
    rw [List.getElem?_append_right (Nat.le_refl _), Nat.sub_self, ← List.head?_eq_getElem?] at h
    obtain ⟨t, rfl⟩ := List.head?_eq_some_iff.mp h
    exact ⟨t, List.append_assoc ..⟩

theorem mem_listdir_iff {names : List Str} (h : fs.listdir dir = some names) :
    e ∈ names ↔ fs.exists (dir ++ [e]) = true := by
  rw [Fs.listdir] at h
  split at h
  · cases h
    rw [List.mem_eraseDups, List.mem_filterMap, exists_iff]
    refine exists_congr fun q => ?_
    rw [prefix_snoc_iff, List.mem_append, ← List.isPrefixOf_iff_prefix, Option.ite_none_right_eq_some]
  · cases h

theorem mem_listdir_of_exists (h : fs.exists (dir ++ [e]) = true) :
    ∃ names, fs.listdir dir = some names ∧ e ∈ names := by
  have hn : fs.listdir dir = some _ := if_pos (isDir_of_exists_append (List.cons_ne_nil e []) h)
  exact ⟨_, hn, (mem_listdir_iff hn).mpr h⟩

theorem mem_dirChildren :
    n ∈ dirChildren sfx fs dir ↔ ∃ e, fs.exists (dir ++ [e]) = true ∧ childOf sfx fs dir e = some n := by
  rw [dirChildren]
  split
  · rename_i hl
    refine iff_of_false (List.not_mem_nil) fun ⟨e, he, _⟩ => ?_
    obtain ⟨names, hn, _⟩ := mem_listdir_of_exists he
    rw [hl] at hn; cases hn
  · rename_i names hl
    rw [List.mem_filterMap]
    exact exists_congr fun e => and_congr_left fun _ => mem_listdir_iff hl

theorem mem_listPackages :
    n ∈ listPackages roots sfx fs sysm root ↔
      n ∈ sysChildren sysm root ∨ ∃ r ∈ roots, n ∈ dirChildren sfx fs (pkgDirOf r root) := by
  simp only [listPackages, List.mem_append, List.mem_flatMap]

theorem childOf_some (h : childOf sfx fs dir e = some n) :
    (∃ s ∈ sfx, e = n ++ s) ∨ (n = e ∧ fs.exists (dir ++ [e, INIT_PY]) = true) := by
  fun_induction childOf sfx fs dir e with
  | case1 hx => cases h; exact .inr ⟨rfl, hx⟩
  | case2 => cases h
  | case3 a _ _ _ _ ih | case5 a _ _ ih =>
    exact (ih h).imp_left fun ⟨s, hs, he⟩ => ⟨s, .tail a hs, he⟩
  | case4 a _ hp =>
    rw [← Option.some.inj h]
    have hd := List.suffix_iff_eq_drop.mp (List.isSuffixOf_iff_suffix.mp hp)
    exact .inl ⟨a, .head _, (List.take_append_drop _ e).symm.trans (congrArg (_ ++ ·) hd.symm)⟩

theorem suffixOrdered_head (h : suffixOrdered sfx = true) : ∀ s ∈ sfx, s.head? = some DOT := by
  induction sfx with
  | nil => exact nofun
  | cons a rest ih =>
    simp only [suffixOrdered, Bool.and_eq_true, beq_iff_eq] at h
    exact List.forall_mem_cons.mpr ⟨h.1.1, ih h.2⟩

theorem suffix_of_append_dotfree {s0 : Str} (hn : DOT ∉ n) (h0 : s0.head? = some DOT)
    (h : s0 <:+ n ++ s) : s0 <:+ s := by
  induction n with
  | nil => exact h
  | cons a n ih =>
    rcases List.suffix_cons_iff.mp h with rfl | h
    · cases h0; exact absurd List.mem_cons_self hn
    · exact ih (fun hm => hn (List.mem_cons_of_mem _ hm)) h

theorem childOf_file (ho : suffixOrdered sfx = true) (hs : s ∈ sfx) (hn : DOT ∉ n) (hi : n ≠ INIT) :
    childOf sfx fs dir (n ++ s) = some n := by
  induction sfx with
  | nil => cases hs
  | cons a rest ih =>
    simp only [suffixOrdered, Bool.and_eq_true, beq_iff_eq, List.all_eq_true] at ho
    obtain ⟨⟨ha, hr⟩, ho'⟩ := ho
    rw [childOf]
    split
    · rename_i hsuf
      -- `a` ends inside `s`; were `s` a later suffix, `a` would be a proper suffix of it
      have h1 := List.isSuffixOf_iff_suffix.mpr
        (suffix_of_append_dotfree hn ha (List.isSuffixOf_iff_suffix.mp hsuf))
      obtain rfl : a = s := (List.mem_cons.mp hs).elim Eq.symm fun hs' => by simpa [h1] using hr s hs'
      simp [hi]
    · rename_i hsuf
      rcases List.mem_cons.mp hs with rfl | hs'
      · exact absurd (List.isSuffixOf_iff_suffix.mpr (List.suffix_append n s)) hsuf
      · exact ih ho' hs'

theorem childOf_nomatch (hd : ∀ s ∈ sfx, s.head? = some DOT) (hn : DOT ∉ n) :
    childOf sfx fs dir n = if fs.exists (dir ++ [n, INIT_PY]) then some n else none := by
  induction sfx with
  | nil => rw [childOf]
  | cons a rest ih =>
    have hna : ¬ a.isSuffixOf n = true := fun hb =>
      hn ((List.isSuffixOf_iff_suffix.mp hb).subset (List.mem_of_mem_head? (hd a List.mem_cons_self)))
    rw [childOf, if_neg hna]
    exact ih fun s hs => hd s (List.mem_cons_of_mem _ hs)

theorem list_sup (hr : r ∈ roots)
    (hs : SameSuffixes sfx lsfx = true)
    (ho : suffixOrdered sfx = true)
    (hp : sourcePkgsAt lsfx fs (pkgDirOf r root) = true)
    (he : enumerable lsfx fs (pkgDirOf r root) n = true) :
    n ∈ listPackages roots sfx fs sysm root := by
  refine mem_listPackages.mpr (Or.inr ⟨r, hr, mem_dirChildren.mpr ?_⟩)
  generalize pkgDirOf r root = dir at hp he
  simp only [enumerable, Bool.and_eq_true, Bool.or_eq_true, bne_iff_ne, ne_eq, Bool.not_eq_true',
    List.any_eq_true, List.contains_eq_mem, decide_eq_false_iff_not] at he
  obtain ⟨⟨⟨_, hdot⟩, hinit⟩, hc⟩ := he
  rcases hc with ⟨s, hsl, hx⟩ | ⟨s, hsl, hx⟩
  · exact ⟨n ++ s, hx, childOf_file ho (((sameSuffixes_mem hs).1 s).mpr hsl) hdot hinit⟩
  · -- a sub-directory holding `__init__<suffix>`: by `sourcePkgsAt` it holds `__init__.py`
    have hex := Find.isDir_exists
      (isDir_of_exists_append (p := dir ++ [n]) (q := [INIT ++ s]) (List.cons_ne_nil _ _) (by simpa using hx))
    obtain ⟨names, hl, hmem⟩ := mem_listdir_of_exists hex
    rw [sourcePkgsAt, hl] at hp
    have hpy : fs.exists (dir ++ [n, INIT_PY]) = true := by
      simpa [show (lsfx.any fun s => fs.exists (dir ++ [n, INIT ++ s])) = true from
        List.any_eq_true.mpr ⟨s, hsl, hx⟩] using List.all_eq_true.mp hp n hmem
    exact ⟨n, hex, by rw [childOf_nomatch (suffixOrdered_head ho) hdot, if_pos hpy]⟩

/-- a proposal read from a directory is backed by a candidate file of `get_module` -/
theorem findIn_of_mem_dirChildren (h : n ∈ dirChildren sfx fs dir) :
    (findIn sfx src fs (dir ++ [n])).isSome = true := by
  obtain ⟨e, he, hc⟩ := mem_dirChildren.mp h
  rw [findIn_snoc]
  split
  · rfl
  · rename_i hnone
    rcases childOf_some hc with ⟨s, hs, rfl⟩ | ⟨rfl, hx⟩
    · exact absurd he (List.find?_eq_none.mp hnone s hs)
    · rw [if_pos hx]; rfl

theorem list_sub_importable (h : n ∈ listPackages roots sfx fs sysm root) (hn : n ∉ sysChildren sysm root)
    (inSys : Bool) :
    ∃ f b, getModuleC roots sfx src fs inSys ((splitOn DOT root).filter (· ≠ []) ++ [n]) = .found f b := by
  obtain ⟨r, hr, h⟩ := (mem_listPackages.mp h).resolve_left hn
  have h1 := findIn_of_mem_dirChildren (src := src) h
  rw [pkgDirOf, List.append_assoc] at h1
  obtain ⟨⟨f, b⟩, hfb⟩ := Option.isSome_iff_exists.mp
    (List.findSome?_isSome_iff (f := fun p => findIn sfx src fs (p ++ _)) |>.mpr ⟨r, hr, h1⟩)
  exact ⟨f, b, getModuleC_eq_found.mpr hfb⟩

end SuppModel.Fs
