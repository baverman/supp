/- Fs family: lemmas behind C07_relative (norm_package = resolve_name). -/
import SuppModel.Fs.Spec
namespace SuppModel.Fs

theorem snoc_induction {α : Type} {P : List α → Prop} (nil : P []) (snoc : ∀ l a, P l → P (l ++ [a]))
    (l : List α) : P l := by
  rw [← List.reverse_reverse l]
  induction l.reverse with
  | nil => exact nil
  | cons a r ih => rw [List.reverse_cons]; exact snoc _ a ih

theorem dirnameN_succ_snoc (n : Nat) (p : Path) (b : Str) : dirnameN (n + 1) (p ++ [b]) = dirnameN n p := by
  rw [dirnameN, List.dropLast_concat]

theorem dirnameN_prefix (n : Nat) (p : Path) : dirnameN n p <+: p := by
  induction n generalizing p with
  | zero => exact List.prefix_refl p
  | succ n ih => exact (ih p.dropLast).trans (List.dropLast_prefix p)

theorem joinOn_snoc (parts : List Str) (x : Str) (h : parts ≠ []) :
    joinOn DOT (parts ++ [x]) = joinOn DOT parts ++ DOT :: x := by
  induction parts with
  | nil => exact absurd rfl h
  | cons a t ih =>
    cases t with
    | nil => simp [joinOn]
    | cons b r =>
      have := ih (List.cons_ne_nil b r)
      simp only [List.cons_append, joinOn] at this ⊢
      rw [this, List.append_assoc]
      rfl

/-- `pkgChainOK` and `noInitUpTo` quantify over the non-empty prefixes of a path -/
theorem all_range_take {α : Type} {P : List α → Bool} {l q : List α}
    (h : (List.range l.length).all (fun k => P (l.take (k + 1))) = true) (hq : q <+: l) (hne : q ≠ []) :
    P q = true := by
  obtain ⟨k, hk⟩ := Nat.exists_eq_add_one_of_ne_zero (mt List.length_eq_zero_iff.mp hne)
  have := List.all_eq_true.mp h k (List.mem_range.mpr (by have := hq.length_le; omega))
  rwa [← hk, ← List.prefix_iff_eq_take.mp hq] at this

theorem climb_snoc (fs : Fs) (d : Path) (x : Str) :
    climb fs (d ++ [x]).reverse = if isPkgDir fs (d ++ [x]) then climb fs d.reverse ++ [x] else [] := by
  rw [List.reverse_append, List.reverse_singleton, List.singleton_append, climb, List.reverse_cons,
    List.reverse_reverse]
  rfl

theorem climb_above {fs : Fs} {top q : Path} (ht : ∀ q, q <+: top → q ≠ [] → isPkgDir fs q = false)
    (hq : q <+: top) : climb fs q.reverse = [] := by
  rcases List.eq_nil_or_concat q with rfl | ⟨d, x, rfl⟩
  · rfl
  · rw [List.concat_eq_append] at hq ⊢
    rw [climb_snoc, ht _ hq (by simp)]
    rfl

theorem climb_dirnameN {fs : Fs} {top : Path} {pkg : List Str}
    (hc : ∀ q, q <+: pkg → q ≠ [] → isPkgDir fs (top ++ q) = true)
    (ht : ∀ q, q <+: top → q ≠ [] → isPkgDir fs q = false) (m : Nat) :
    climb fs (dirnameN m (top ++ pkg)).reverse = pkg.take (pkg.length - m) := by
  induction pkg using snoc_induction generalizing m with
  | nil => rw [List.append_nil, List.take_nil]; exact climb_above ht (dirnameN_prefix m top)
  | snoc p b ih =>
    have ih := ih fun q hq => hc q (hq.trans (List.prefix_append p [b]))
    rw [← List.append_assoc]
    cases m with
    | zero =>
      have h0 := ih 0
      rw [dirnameN, Nat.sub_zero, List.take_length] at h0
      rw [dirnameN, climb_snoc, List.append_assoc, hc _ (List.prefix_refl _) (by simp), if_pos rfl, h0,
        Nat.sub_zero, List.take_length]
    | succ m =>
      rw [dirnameN_succ_snoc, ih m, List.length_append, List.length_singleton, Nat.add_sub_add_right,
        List.take_append_of_le_length (Nat.sub_le _ _)]

theorem leadingDots_pos {rel : Str} (h : rel.head? = some DOT) : ∃ l, leadingDots rel = l + 1 := by
  cases rel with
  | nil => cases h
  | cons c cs => exact ⟨leadingDots cs, by rw [leadingDots, if_pos (Option.some.inj h)]⟩

theorem normPackage_eq_resolveName (fs : Fs) (top : Path) (pkg : List Str) (base : Str) (rel : Str)
    (hc : pkgChainOK fs top pkg = true) (ht : noInitUpTo fs top = true) :
    normPackage fs (top ++ pkg ++ [base]) rel = resolveName rel pkg := by
  unfold normPackage resolveName
  by_cases hd : rel.head? ≠ some DOT
  · rw [if_pos hd, if_pos hd]
  · obtain ⟨l, hl⟩ := leadingDots_pos (Decidable.not_not.mp hd)
    have hclimb := climb_dirnameN (fun q => all_range_take (P := fun q => isPkgDir fs (top ++ q)) hc)
      (fun q hq hne => by simpa using all_range_take (P := fun q => !isPkgDir fs q) ht hq hne) l
    simp only [if_neg hd, hl, dirnameN_succ_snoc, hclimb, Nat.add_sub_cancel]
    by_cases hin : pkg.length ≤ l
    · -- the level reaches above the package: both sides raise
      rw [Nat.sub_eq_zero_of_le hin, List.take_zero, if_pos rfl, if_pos (Nat.lt_succ_of_le hin)]
      split <;> rfl
    · have hpkg : pkg ≠ [] := fun h => hin (by rw [h]; exact Nat.zero_le l)
      have hne : pkg.take (pkg.length - l) ≠ [] := fun h =>
        (List.take_eq_nil_iff.mp h).elim (fun h => hin (Nat.le_of_sub_eq_zero h)) hpkg
      rw [if_neg hne, if_neg hpkg, if_neg (show ¬ pkg.length < l + 1 by omega)]
      by_cases hn : rel.drop (l + 1) = []
      · rw [if_pos hn, if_pos hn]
      · rw [if_neg hn, if_neg hn, joinOn_snoc _ _ hne]
end SuppModel.Fs
