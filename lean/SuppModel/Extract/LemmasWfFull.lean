/-
  Extract family — `Good st → (st.toGraph builtins).wf = true`: the invariant of the extractor's state implies
  the decidable well-formedness the C05 theorems assume (SuppModel/Flow/Scoping.lean).
-/
import SuppModel.Extract.LemmasGoodExec
import SuppModel.Flow.Scoping

namespace SuppModel.Extract
open SuppModel.Flow

/-- an element that its index singles out is the only one the filter keeps -/
theorem filter_idx {α} (p : α → Bool) :
    ∀ (l : List α) (q : Nat), (∀ (i : Nat) (x : α), l[i]? = some x → (p x = true ↔ i = q)) → l.filter p = l[q]?.toList
  | [], _, _ => rfl
  | a :: as, 0, h => by
    have has : as.filter p = [] := List.filter_eq_nil_iff.mpr fun x hx e => by
      obtain ⟨i, hi⟩ := List.getElem?_of_mem hx
      exact nomatch (h (i + 1) x hi).mp e
    rw [List.filter_cons_of_pos ((h 0 a rfl).mpr rfl), has]
    rfl
  | a :: as, q + 1, h => by
    rw [List.filter_cons_of_neg fun e => nomatch (h 0 a rfl).mp e]
    exact filter_idx p as q fun i x hx => (h (i + 1) x hx).trans Nat.succ_inj

theorem find?_idx {α} (p : α → Bool) (l : List α) (q : Nat) (h : ∀ (i : Nat) (x : α), l[i]? = some x → (p x = true ↔ i = q)) :
    l.find? p = l[q]? := by
  rw [← List.head?_filter, filter_idx p l q h]
  cases l[q]? <;> rfl

theorem nodup_of_idx {α} (id : α → Nat) (l : List α) (h : ∀ (i : Nat) (x : α), l[i]? = some x → id x = i) :
    (l.map id).Nodup := by
  rw [List.Nodup, List.pairwise_iff_getElem]
  intro i j hi hj hij
  simp only [List.length_map] at hi hj
  simp only [List.getElem_map]
  rw [h i l[i] (List.getElem?_eq_getElem hi), h j l[j] (List.getElem?_eq_getElem hj)]
  omega

theorem eraseDups_of_nodup : ∀ (l : List Nat), l.Nodup → l.eraseDups = l
  | [], _ => rfl
  | a :: as, h => by
    rw [List.nodup_cons] at h
    rw [List.eraseDups_cons]
    have hf : as.filter (fun b => !b == a) = as := by
      apply List.filter_eq_self.mpr
      intro b hb
      simp only [Bool.not_eq_true', beq_eq_false_iff_ne]
      intro e; subst e; exact h.1 hb
    rw [hf, eraseDups_of_nodup as h.2]

theorem eraseDups_map_len {α} {f : α → Nat} {l : List α} (h : (l.map f).Nodup) : (l.map f).eraseDups.length = l.length := by
  rw [eraseDups_of_nodup _ h, List.length_map]

section
variable {st : St} (hg : Good st) (b : List String)
include hg

theorem g_flow? (q : Nat) : (st.toGraph b).flow? q = st.flows[q]? :=
  find?_idx _ st.flows q fun i f hf => by rw [beq_iff_eq, hg.basic.flowIds i f hf]

theorem g_scope? (q : Nat) : (st.toGraph b).scope? q = (st.scopes[q]?).map (ScopeSt.toRec st.globalNames) :=
  List.find?_map.trans <| congrArg _ <|
    find?_idx _ st.scopes q fun i s hs => by rw [Function.comp_apply, beq_iff_eq, ← hg.basic.scopeIds i s hs]; rfl

omit hg in
theorem fin_flow {v S : Nat} (h : FIn st.fsk v S) : ∃ f, st.flows[v]? = some f ∧ f.scope = S := by
  obtain ⟨x, hx, e⟩ := h
  simp only [St.fsk, List.getElem?_map, Option.map_eq_some_iff] at hx
  obtain ⟨f, hf, rfl⟩ := hx
  exact ⟨f, hf, e⟩

/-- what `Graph.wf` asks of a predecessor or final flow: it exists in the graph, with the given scope -/
theorem flow_any {q S : Nat} (h : FIn st.fsk q S) : ((st.toGraph b).flow? q).any (fun fq => fq.scope == S) = true := by
  obtain ⟨fq, h1, h2⟩ := fin_flow h
  simp only [g_flow? hg b, h1, h2, Option.any_some, beq_self_eq_true]

theorem module_scopes : st.scopes.filter (·.kind == .module) = st.scopes[1]?.toList :=
  filter_idx _ st.scopes 1 fun i _ hs => beq_iff_eq.trans (hg.struct.kindMod i _ (ssk_get hs))

theorem mem_scopes {s' : ScopeRec} (h : s' ∈ (st.toGraph b).scopes) :
    ∃ s, st.scopes[s'.id]? = some s ∧ s' = s.toRec st.globalNames := by
  obtain ⟨s, hs, rfl⟩ := List.mem_map.mp h
  obtain ⟨i, hi⟩ := List.getElem?_of_mem hs
  exact ⟨s, by rw [show (s.toRec st.globalNames).id = i from hg.basic.scopeIds i s hi]; exact hi, rfl⟩

end

theorem toRec_globals (G : List NameRec) (l : List ScopeSt) :
    (l.map (ScopeSt.toRec G)).flatMap (·.globals) = (l.filter (·.kind == .module)).flatMap fun _ => G := by
  induction l with
  | nil => rfl
  | cons a as ih =>
    rw [List.map_cons, List.flatMap_cons, ih, List.filter_cons, ScopeSt.toRec]
    cases a.kind <;> rfl

theorem reaches_root {st : St} (hg : Good st) (b : List String) :
    ∀ (fuel i : Nat), i < fuel → i < st.scopes.length → reachesRoot (st.toGraph b) fuel i = true := by
  intro fuel
  induction fuel with
  | zero => intro i h; omega
  | succ fuel ih =>
    intro i hi hl
    have hs : st.scopes[i]? = some st.scopes[i] := List.getElem?_eq_getElem hl
    simp only [reachesRoot, g_scope? hg b, hs, Option.map_some, ScopeSt.toRec]
    rcases hg.struct.parent i _ (ssk_get hs) with hp | ⟨p, hp, hlt⟩
    · simp only at hp; rw [hp]
    · simp only at hp; rw [hp]
      exact ih p (by omega) (by omega)

theorem good_wf {st : St} (hg : Good st) (b : List String) : (st.toGraph b).wf = true := by
  have hmod := module_scopes hg
  unfold Graph.wf
  simp only [Bool.and_eq_true, List.all_eq_true, beq_iff_eq, decide_eq_true_eq, Bool.or_eq_true]
  refine ⟨⟨⟨⟨⟨⟨⟨?_, ?_⟩, ?_⟩, ?_⟩, ?_⟩, ?_⟩, ?_⟩, ?_⟩
  · have hsub : ((st.toGraph b).scopes.flatMap (·.globals)).Sublist st.globalNames := by
      rw [St.toGraph, toRec_globals, hmod]
      cases st.scopes[1]? with
      | none => exact List.nil_sublist _
      | some c => rw [Option.toList_some, List.flatMap_singleton]; exact .refl _
    exact eraseDups_map_len (hg.names.nodup.sublist (((List.Sublist.refl _).append hsub).map _))
  · exact eraseDups_map_len (nodup_of_idx _ st.flows hg.basic.flowIds)
  · refine eraseDups_map_len (l := st.scopes.map _) ?_
    rw [List.map_map]
    exact nodup_of_idx _ st.scopes hg.basic.scopeIds
  · intro f hf
    refine ⟨hg.basic.nameScope f hf, fun p hp => ?_⟩
    obtain ⟨i, hi⟩ := List.getElem?_of_mem hf
    have hP := hg.struct.parents i _ (fsk_get hi) p hp
    cases p <;> exact flow_any hg b hP
  · intro s' hs'
    obtain ⟨s, hi, rfl⟩ := mem_scopes hg b hs'
    by_cases hk : s.kind = .builtin
    · exact .inr hk
    · exact .inl (flow_any hg b (hg.struct.final _ _ (ssk_get hi) hk))
  · rw [St.toGraph, List.filter_map, List.length_map]
    exact hmod ▸ Option.length_toList_le
  · intro s' hs'
    obtain ⟨s, hi, rfl⟩ := mem_scopes hg b hs'
    have hl := (List.getElem?_eq_some_iff.mp hi).1
    exact reaches_root hg b _ _ (by simp only [St.toGraph, List.length_map]; omega) hl
  · intro f hf
    obtain ⟨i, hi⟩ := List.getElem?_of_mem hf
    have := hg.struct.fscope i _ (fsk_get hi)
    simp only [St.ssk, List.length_map] at this
    rw [g_scope? hg b, List.getElem?_eq_getElem this]
    rfl

end SuppModel.Extract
