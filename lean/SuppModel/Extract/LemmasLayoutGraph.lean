/-
  Extract family — layout independence, from corresponding states to the graph-level hypotheses of
  `C13_layouts` (`sameShape`, `orderIsoAt`, `queryIsoAt`).
-/
import SuppModel.Extract.LemmasLayout

namespace SuppModel.Extract
open SuppModel.Flow

variable {φ ψ : Pos → Pos} {S : List Pos} {Q : Ast → Bool}

theorem Sim.toGraph {st st' : St} (h : Sim φ ψ st st') (b : List String) :
    st'.toGraph b = (st.toGraph b).mapLoc ψ := by
  simp only [St.toGraph, Graph.mapLoc, h.flows, h.scopes, h.globals, List.map_map]
  congr 1
  refine List.map_congr_left fun s _ => ?_
  simp only [ScopeSt.toRec, Function.comp]
  cases s.kind <;> rfl

theorem locsOf_in {st : St} (hl : LocsIn S st) (b : List String) (f : Nat) : ∀ p ∈ (st.toGraph b).locsOf f, p ∈ S := by
  intro p hp
  unfold Graph.locsOf at hp
  cases hf : (st.toGraph b).flow? f with
  | none => rw [hf] at hp; cases hp
  | some fr =>
    rw [hf] at hp
    simp only [Option.map_some, Option.getD_some, List.mem_map] at hp
    obtain ⟨n, hn, rfl⟩ := hp
    exact hl.names fr (List.mem_of_find?_eq_some hf) n hn

theorem Sim.sameShape {st st' : St} (h : Sim φ ψ st st') (b : List String) :
    sameShape (st.toGraph b) (st'.toGraph b) = true := by
  rw [h.toGraph b]; exact sameShape_mapLoc _

theorem Sim.queryIsoAt {st st' : St} (h : Sim φ ψ st st') (hl : LocsIn S st)
    (b : List String) (f : Nat) {pos pos' : Pos} (hpos : ∀ l ∈ S, Pos.lt pos' (ψ l) = Pos.lt pos l) :
    queryIsoAt (st.toGraph b) (st'.toGraph b) f pos pos' = true := by
  rw [h.toGraph b]
  exact queryIsoAt_mapLoc _ f pos pos' fun l hl' => hpos l (locsOf_in hl b f l hl')

end SuppModel.Extract
