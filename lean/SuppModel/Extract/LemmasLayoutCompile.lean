/-
  Extract family — layout independence, layer 2: re-positioning (`Ast.mapPos φ`) is a node homomorphism under the
  per-node position conditions `posQ` (`mapPos_hom`), hence `compile` commutes with it (`compile_comm`).
  `get_expr_end` (`lastLoc`) is the one place a location is COMPUTED from a position: start + (0, 1).
-/
import SuppModel.Extract.LemmasLayout
import SuppModel.Extract.LemmasHomCompile

namespace SuppModel.Extract
open SuppModel.Flow

variable {φ ψ : Pos → Pos}

@[simp] theorem mapPos_kind (n : Ast) : (n.mapPos φ).kind = n.kind := by cases n <;> rfl
@[simp] theorem mapPos_pos (n : Ast) : (n.mapPos φ).pos? = n.pos?.map φ := by cases n <;> rfl

theorem field?_mapPos (n : Ast) (k : String) : (n.mapPos φ).field? k = (n.field? k).map (Ast.mapPos φ) := by
  cases n with
  | node kd p ns vs =>
    simp only [Ast.mapPos, Ast.field?, Ast.fieldNames, Ast.vals, mapPosList_eq]
    exact lookupField_map _ k ns vs
  | _ => rfl

theorem field?_isSome_mapPos (n : Ast) (k : String) : ((n.mapPos φ).field? k).isSome = (n.field? k).isSome := by
  rw [field?_mapPos, Option.isSome_map]

mutual
theorem lastLoc_bump : ∀ (n : Ast) (a : Pos), lastLoc n (bump a) = bump (lastPos n a)
  | .node k p ns vs, a => by
    simp only [lastLoc, lastPos]
    cases p with
    | none => exact lastLocList_bump vs a
    | some q => exact lastLocList_bump vs q
  | .list items, a => by simp only [lastLoc, lastPos]; exact lastLocList_bump items a
  | .str _, _ => rfl
  | .int _, _ => rfl
  | .none, _ => rfl
theorem lastLocList_bump : ∀ (l : List Ast) (a : Pos), lastLocList l (bump a) = bump (lastPosList l a)
  | [], _ => rfl
  | x :: xs, a => by
    simp only [lastLocList, lastPosList]
    rw [lastLoc_bump x a]
    exact lastLocList_bump xs _
end

mutual
theorem lastPos_mapPos : ∀ (n : Ast) (a : Pos), lastPos (n.mapPos φ) (φ a) = φ (lastPos n a)
  | .node k p ns vs, a => by
    simp only [Ast.mapPos, lastPos]
    cases p with
    | none => exact lastPosList_mapPos vs a
    | some q => exact lastPosList_mapPos vs q
  | .list items, a => by simp only [Ast.mapPos, lastPos]; exact lastPosList_mapPos items a
  | .str _, _ => rfl
  | .int _, _ => rfl
  | .none, _ => rfl
theorem lastPosList_mapPos : ∀ (l : List Ast) (a : Pos), lastPosList (mapPosList φ l) (φ a) = φ (lastPosList l a)
  | [], _ => rfl
  | x :: xs, a => by
    simp only [mapPosList, lastPosList]
    rw [lastPos_mapPos x a]
    exact lastPosList_mapPos xs _
end

theorem posQ_pos {n : Ast} {p : Pos} (h : posQ φ ψ n = true) (hp : n.pos? = some p) :
    ψ p = φ p ∧ ψ (bump (lastPos n p)) = bump (φ (lastPos n p)) := by
  simp only [posQ, hp, Bool.and_eq_true, decide_eq_true_eq] at h
  exact h.1

theorem posQ_mix {n : Ast} {dp bp : Pos} (h : posQ φ ψ n = true) (hk : mixKey n = some (dp, bp)) :
    ψ (dp.1, bp.2) = ((φ dp).1, (φ bp).2) := by
  simp only [posQ, hk, Bool.and_eq_true, decide_eq_true_eq] at h
  exact h.2

theorem mapPos_hom : NodeHom (Ast.mapPos φ) φ ψ (fun _ _ => true) (fun _ => True) (posQ φ ψ · = true) where
  isNode := mapPos_isNode φ
  kind := mapPos_kind
  pos := mapPos_pos
  size := mapPos_size φ
  children := mapPos_children φ
  field_some n k v h _ := by rw [field?_mapPos, h]; rfl
  field_none n k h := by rw [field?_mapPos, h]; rfl
  str _ := rfl
  int _ := rfl
  none := rfl
  list l := by simp only [Ast.mapPos, mapPosList_eq]
  lit _ _ _ _ := rfl
  idgood _ _ _ _ := rfl
  startLoc n p hq hp := (posQ_pos hq hp).1
  endLoc n p hq hp := by
    show lastLoc _ (bump (φ p)) = ψ (lastLoc n (bump p))
    rw [lastLoc_bump, lastLoc_bump, lastPos_mapPos, (posQ_pos hq hp).2]
  mixLoc b d ds dp bp hq hk hd h1 h2 := posQ_mix hq (by simp only [mixKey, hk, if_true, hd, h1, h2])

theorem Instr.mapG_mapPos : Instr.mapG (Ast.mapPos φ) φ ψ = Instr.mapP φ ψ := by
  funext i
  cases i <;> rfl

theorem compile_comm {n : Ast} {prog : Prog} (hn : n.isNode = true) (hq : n.all (posQ φ ψ) = true)
    (h : compile n = .ok prog) : compile (n.mapPos φ) = .ok (prog.map (Instr.mapP φ ψ)) := by
  rw [← Instr.mapG_mapPos]
  exact compile_hom mapPos_hom (all_here hn hq) (fun c hc => all_here hc.node (hc.inside.all _ hq)) h
    (fun _ _ _ _ _ => trivial) (fun _ => rfl)

end SuppModel.Extract
