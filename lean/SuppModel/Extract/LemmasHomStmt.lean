/-
  Extract family — the visit methods of the statements without a scope of their own commute with a node homomorphism.
-/
import SuppModel.Extract.LemmasHom

namespace SuppModel.Extract
open SuppModel.Flow

section
variable {T : Ast → Ast} {φ ψ : Pos → Pos}

theorem assignBind_mapG (eend : Pos) (t : Target) :
    (assignBind eend t).map (Instr.mapG T φ ψ) = assignBind (ψ eend) (t.mapP φ) := by
  cases t <;> rfl

theorem forBind_mapG (bl : Pos) (t : Target) :
    (forBind bl t).map (Instr.mapG T φ ψ) = forBind (ψ bl) (t.mapP φ) := by
  cases t <;> rfl

theorem withBind_mapG (eend : Pos) (t : Target) :
    (withBind eend t).map (Instr.mapG T φ ψ) = withBind (ψ eend) (t.mapP φ) := by
  cases t <;> rfl

variable {good : Ast → String → Bool} {okPos : Pos → Prop} {Q : Ast → Prop} (H : NodeHom T φ ψ good okPos Q)
  {n : Ast} {prog : Prog}
include H

theorem compileAssign_hom (hq : ∀ c, Sub c n → Q c) (h : compileAssign n = .ok prog)
    (ht : TgtOK okPos prog) : compileAssign (T n) = .ok (prog.map (Instr.mapG T φ ψ)) := by
  simp only [compileAssign, bind_ok_iff, pure_ok_iff] at h
  obtain ⟨value, h1, eend, h2, targets, h3, ts, h4, rfl⟩ := h
  have hts : ∀ q id, Target.name q id ∈ ts → okPos q := fun q id hm =>
    ht.bound (List.mem_append_left _ (List.mem_flatMap.2 ⟨_, hm, List.mem_cons_of_mem _ List.mem_cons_self⟩)) rfl
  simp only [compileAssign, getNode_hom H h1, exprEnd_hom H (hq _ (getNode_sub h1)) h2, getNodeList_hom H h3,
    targetsOfList_hom H _ _ h4 hts, M.ok_bind, M.pure_eq, List.map_append, generic_hom H, List.map_flatMap,
    List.flatMap_map, assignBind_mapG]

theorem annEnd_hom {value : Option Ast} {e : Pos} (hn : Q n) (hv : ∀ v, value = some v → Q v)
    (h : annEnd value n = .ok e) : annEnd (value.map T) (T n) = .ok (ψ e) := by
  cases value with
  | none => exact exprEnd_hom H hn h
  | some v => exact exprEnd_hom H (hv v rfl) h

theorem annBind_hom {target : Ast} {hv : Bool} {eend : Pos} (h : annBind target hv eend = .ok prog)
    (ht : TgtOK okPos prog) : annBind (T target) hv (ψ eend) = .ok (prog.map (Instr.mapG T φ ψ)) := by
  simp only [annBind, H.isNode, H.kind, H.pos] at h ⊢
  refine ite_hom h (fun _ h => by cases h; rfl) fun _ h => ite_hom h (fun _ h => by cases h; rfl) fun _ h =>
    ite_hom h (fun _ h => ?_) fun _ h => by cases h; rfl
  simp only [bind_ok_iff, pure_ok_iff] at h
  obtain ⟨id, e1, p, e2, rfl⟩ := h
  simp only [getStr_hom H e1 (.inr (H.idgood _ p (np_pos e2) (ht.bound (List.mem_cons_of_mem _ List.mem_cons_self) rfl))),
    np_hom H e2, M.ok_bind, M.pure_eq]
  rfl

theorem compileAnnAssign_hom (hn : Q n) (hq : ∀ c, Sub c n → Q c)
    (h : compileAnnAssign n = .ok prog) (ht : TgtOK okPos prog) :
    compileAnnAssign (T n) = .ok (prog.map (Instr.mapG T φ ψ)) := by
  simp only [compileAnnAssign, bind_ok_iff, pure_ok_iff] at h
  obtain ⟨value, h1, eend, h2, target, h3, bnd, h4, rfl⟩ := h
  simp only [compileAnnAssign, getOptNode_hom H h1, annEnd_hom H hn (fun v hv => hq v (getOptNode_sub (hv ▸ h1))) h2,
    get_hom H h3, Option.isSome_map, annBind_hom H h4 (ht.sub fun i hi => List.mem_append_left _ hi), M.ok_bind,
    M.pure_eq, List.map_append, generic_hom H]

theorem compileIf_hom (h : compileIf n = .ok prog) :
    compileIf (T n) = .ok (prog.map (Instr.mapG T φ ψ)) := by
  simp only [compileIf, bind_ok_iff, pure_ok_iff] at h
  obtain ⟨test, h1, body, h2, orelse, h3, rfl⟩ := h
  simp only [compileIf, getNode_hom H h1, getNodeList_hom H h2, getNodeList_hom H h3, M.ok_bind, M.pure_eq]
  rfl

theorem compileWhile_hom (h : compileWhile n = .ok prog) :
    compileWhile (T n) = .ok (prog.map (Instr.mapG T φ ψ)) := by
  simp only [compileWhile, bind_ok_iff, pure_ok_iff] at h
  obtain ⟨test, h1, body, h2, orelse, h3, rfl⟩ := h
  simp only [compileWhile, getNode_hom H h1, getNodeList_hom H h2, getNodeList_hom H h3, M.ok_bind, M.pure_eq]
  rfl

theorem compileFor_hom (hq : ∀ c, Sub c n → Q c) (h : compileFor n = .ok prog)
    (ht : TgtOK okPos prog) : compileFor (T n) = .ok (prog.map (Instr.mapG T φ ψ)) := by
  simp only [compileFor, bind_ok_iff, pure_ok_iff] at h
  obtain ⟨iter, h1, body, h2, bl, h3, target, h4, ts, h5, orelse, h6, rfl⟩ := h
  have hts : ∀ q id, Target.name q id ∈ ts → okPos q := fun q id hm =>
    ht.bound (List.mem_append_left _ (List.mem_append_right _ (List.mem_flatMap.2 ⟨_, hm, List.mem_cons_self⟩))) rfl
  simp only [compileFor, getNode_hom H h1, getNodeList_hom H h2, bodyLoc_hom H (fun b hb => hq b (getNodeList_sub h2 b hb)) h3,
    getNode_hom H h4, targetsOf_hom H h5 hts, getNodeList_hom H h6, M.ok_bind, M.pure_eq, List.map_append,
    List.map_flatMap, List.flatMap_map, forBind_mapG]
  rfl

theorem aliasSpec_hom (a : Ast) (asn : Option String) (e : Option Ast) :
    aliasSpec (T a) asn (e.map T) = (aliasSpec a asn e).map (fun x => (φ x.1, x.2)) := by
  cases asn with
  | none => simp only [aliasSpec, H.pos]; cases a.pos? <;> rfl
  | some s =>
    cases e with
    | none => rfl
    | some en => simp only [aliasSpec, Option.map_some, H.pos]; cases en.pos? <;> rfl

theorem aliasEnds_hom {l : List Ast} (h : aliasEnds n = .ok l) : aliasEnds (T n) = .ok (l.map T) :=
  optNodeList_hom H h

theorem importAlias_hom {loc start : Pos} {a : Ast} {e : Option Ast}
    (h : importAlias loc start a e = .ok prog) :
    importAlias (ψ loc) (φ start) (T a) (e.map T) = .ok (prog.map (Instr.mapG T φ ψ)) := by
  simp only [importAlias, bind_ok_iff] at h
  obtain ⟨asname, h1, aname, h2, h⟩ := h
  simp only [importAlias, getOptStr_hom H h1, getStr_hom H h2, M.ok_bind, aliasSpec_hom H]
  split at h <;> (cases h; rfl)

theorem importAliases_hom {loc start : Pos} : ∀ (l es : List Ast) (prog : Prog), importAliases loc start l es = .ok prog →
    importAliases (ψ loc) (φ start) (l.map T) (es.map T) = .ok (prog.map (Instr.mapG T φ ψ))
  | [], _, _, h => by cases h; rfl
  | a :: r, es, _, h => by
    simp only [importAliases, bind_ok_iff, pure_ok_iff] at h
    obtain ⟨this, ht, rest, hr, rfl⟩ := h
    simp only [List.map_cons, importAliases, List.head?_map, ← List.map_tail, importAlias_hom H ht,
      importAliases_hom r es.tail rest hr, M.ok_bind, M.pure_eq, List.map_append]

theorem compileImport_hom (hn : Q n) (h : compileImport n = .ok prog) :
    compileImport (T n) = .ok (prog.map (Instr.mapG T φ ψ)) := by
  simp only [compileImport, bind_ok_iff] at h
  obtain ⟨loc, h1, start, h2, names, h3, ends, h4, h⟩ := h
  simp only [compileImport, exprEnd_hom H hn h1, np_hom H h2, getNodeList_hom H h3, aliasEnds_hom H h4, M.ok_bind]
  exact importAliases_hom H names ends prog h

theorem importFromAlias_hom {loc start : Pos} {mod : String} {a : Ast} {e : Option Ast}
    (h : importFromAlias loc start mod a e = .ok prog) :
    importFromAlias (ψ loc) (φ start) mod (T a) (e.map T) = .ok (prog.map (Instr.mapG T φ ψ)) := by
  simp only [importFromAlias, bind_ok_iff] at h
  obtain ⟨asname, h1, aname, h2, h⟩ := h
  simp only [importFromAlias, getOptStr_hom H h1, getStr_hom H h2, M.ok_bind, aliasSpec_hom H]
  exact ite_hom h (fun _ h => by cases h; rfl) fun _ h => by cases h; rfl

theorem importFromAliases_hom {loc start : Pos} {mod : String} : ∀ (l es : List Ast) (prog : Prog),
    importFromAliases loc start mod l es = .ok prog →
    importFromAliases (ψ loc) (φ start) mod (l.map T) (es.map T) = .ok (prog.map (Instr.mapG T φ ψ))
  | [], _, _, h => by cases h; rfl
  | a :: r, es, _, h => by
    simp only [importFromAliases, bind_ok_iff, pure_ok_iff] at h
    obtain ⟨this, ht, rest, hr, rfl⟩ := h
    simp only [List.map_cons, importFromAliases, List.head?_map, ← List.map_tail, importFromAlias_hom H ht,
      importFromAliases_hom r es.tail rest hr, M.ok_bind, M.pure_eq, List.map_append]

theorem compileImportFrom_hom (hn : Q n) (h : compileImportFrom n = .ok prog) :
    compileImportFrom (T n) = .ok (prog.map (Instr.mapG T φ ψ)) := by
  simp only [compileImportFrom, bind_ok_iff] at h
  obtain ⟨loc, h1, start, h2, names, h3, ends, h4, h⟩ := h
  simp only [compileImportFrom, exprEnd_hom H hn h1, np_hom H h2, getNodeList_hom H h3, aliasEnds_hom H h4, M.ok_bind]
  cases names with
  | nil => cases h; rfl
  | cons a r =>
    simp only [bind_ok_iff] at h
    obtain ⟨level, h5, module, h6, h⟩ := h
    simp only [List.map_cons, getInt_hom H h5, getOptStr_hom H h6, M.ok_bind]
    exact importFromAliases_hom H (a :: r) ends prog h

theorem compileReturn_hom (h : compileReturn n = .ok prog) :
    compileReturn (T n) = .ok (prog.map (Instr.mapG T φ ψ)) := by
  cases h
  simp only [compileReturn, M.pure_eq, List.map_cons, generic_hom H]
  rfl

theorem compileGlobal_hom (h : compileGlobal n = .ok prog) :
    compileGlobal (T n) = .ok (prog.map (Instr.mapG T φ ψ)) := by
  simp only [compileGlobal, bind_ok_iff, pure_ok_iff] at h
  obtain ⟨names, h1, rfl⟩ := h
  simp only [compileGlobal, getStrList_hom H h1, M.ok_bind, M.pure_eq]
  rfl

theorem compileNonlocal_hom (h : compileNonlocal n = .ok prog) :
    compileNonlocal (T n) = .ok (prog.map (Instr.mapG T φ ψ)) := by
  simp only [compileNonlocal, bind_ok_iff, pure_ok_iff] at h
  obtain ⟨names, h1, rfl⟩ := h
  simp only [compileNonlocal, getStrList_hom H h1, M.ok_bind, M.pure_eq]
  rfl

theorem compileNamedExpr_hom (hq : ∀ c, Sub c n → Q c) (h : compileNamedExpr n = .ok prog)
    (ht : TgtOK okPos prog) : compileNamedExpr (T n) = .ok (prog.map (Instr.mapG T φ ψ)) := by
  simp only [compileNamedExpr, bind_ok_iff, pure_ok_iff] at h
  obtain ⟨value, h1, eend, h2, target, h3, id, h4, p, h5, rfl⟩ := h
  have hg := H.idgood target p (np_pos h5) (ht.bound (List.mem_cons_of_mem _ List.mem_cons_self) rfl)
  simp only [compileNamedExpr, getNode_hom H h1, exprEnd_hom H (hq _ (getNode_sub h1)) h2, get_hom H h3,
    getStr_hom H h4 (.inr hg), np_hom H h5, M.ok_bind, M.pure_eq, List.map_append, generic_hom H, assignBind_mapG]
  rfl

theorem withItem_hom {it : Ast} (hq : ∀ c, Sub c it → Q c) (h : withItem it = .ok prog)
    (ht : TgtOK okPos prog) : withItem (T it) = .ok (prog.map (Instr.mapG T φ ψ)) := by
  simp only [withItem, bind_ok_iff] at h
  obtain ⟨ov, h1, h⟩ := h
  simp only [withItem, getOptNode_hom H h1, M.ok_bind]
  cases ov with
  | none => cases h; rfl
  | some t =>
    simp only [bind_ok_iff, pure_ok_iff] at h
    obtain ⟨ce, h2, eend, h3, ts, h4, rfl⟩ := h
    have hts : ∀ q id, Target.name q id ∈ ts → okPos q := fun q id hm =>
      ht.bound (List.mem_flatMap.2 ⟨_, hm, List.mem_cons_self⟩) rfl
    simp only [Option.map_some, getNode_hom H h2, exprEnd_hom H (hq _ (getNode_sub h2)) h3, targetsOf_hom H h4 hts,
      M.ok_bind, M.pure_eq, List.map_flatMap, List.flatMap_map, withBind_mapG]

theorem withItems_hom (hq : ∀ c, Sub c n → Q c) : ∀ (l : List Ast), (∀ it ∈ l, Sub it n) →
    ∀ prog, withItems l = .ok prog → TgtOK okPos prog → withItems (l.map T) = .ok (prog.map (Instr.mapG T φ ψ))
  | [], _, _, h, _ => by cases h; rfl
  | it :: r, hs, _, h, ht => by
    simp only [withItems, bind_ok_iff, pure_ok_iff] at h
    obtain ⟨this, hth, rest, hr, rfl⟩ := h
    have hs' := List.forall_mem_cons.1 hs
    simp only [List.map_cons, withItems,
      withItem_hom H (fun c hc => hq c (hc.trans hs'.1.inside)) hth (ht.sub fun i hi => List.mem_append_left _ hi),
      withItems_hom hq r hs'.2 rest hr (ht.sub fun i hi => List.mem_append_right _ hi), M.ok_bind, M.pure_eq,
      List.map_append]

theorem compileWith_hom (hq : ∀ c, Sub c n → Q c) (h : compileWith n = .ok prog)
    (ht : TgtOK okPos prog) : compileWith (T n) = .ok (prog.map (Instr.mapG T φ ψ)) := by
  simp only [compileWith, bind_ok_iff, pure_ok_iff] at h
  obtain ⟨items, h1, binds, h2, rfl⟩ := h
  simp only [compileWith, getNodeList_hom H h1,
    withItems_hom H hq items (getNodeList_sub h1) binds h2 (ht.sub fun i hi => List.mem_append_left _ hi), M.ok_bind,
    M.pure_eq, List.map_append, generic_hom H]

end

end SuppModel.Extract
