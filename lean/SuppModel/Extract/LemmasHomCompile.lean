/-
  Extract family — the reading half of every visit method commutes with a node homomorphism (`compile_hom`); a
  transformation satisfying `TLaws` is one that moves no position (`compile_trans`).
-/
import SuppModel.Extract.LemmasHomStmt
import SuppModel.Extract.LemmasHomScope

namespace SuppModel.Extract
open SuppModel.Flow

section
variable {T : Ast → Ast} {φ ψ : Pos → Pos} {good : Ast → String → Bool} {okPos : Pos → Prop} {Q : Ast → Prop}

theorem compile_hom (H : NodeHom T φ ψ good okPos Q) {n : Ast} {prog : Prog} (hn : Q n) (hq : ∀ c, Sub c n → Q c)
    (h : compile n = .ok prog) (ht : TgtOK okPos prog) (hname : n.kind = "Name" → good n "id" = true) :
    compile (T n) = .ok (prog.map (Instr.mapG T φ ψ)) := by
  unfold compile at h ⊢
  rw [H.kind]
  split at h <;> rename_i hk
  · exact compileAssign_hom H hq h ht
  · exact compileAnnAssign_hom H hn hq h ht
  · exact compileIf_hom H h
  · exact compileFor_hom H hq h ht
  · exact compileFor_hom H hq h ht
  · exact compileWhile_hom H h
  · exact compileImport_hom H hn h
  · exact compileImportFrom_hom H hn h
  · exact compileTry_hom H hq h
  · exact compileTry_hom H hq h
  · exact compileFunctionDef_hom H hq h
  · exact compileFunctionDef_hom H hq h
  · exact compileLambda_hom H hq h
  · exact compileClassDef_hom H hq h
  · exact compileReturn_hom H h
  · exact compileComp_hom H hn h ht
  · exact compileComp_hom H hn h ht
  · exact compileComp_hom H hn h ht
  · exact compileComp_hom H hn h ht
  · exact compileWith_hom H hq h ht
  · exact compileWith_hom H hq h ht
  · exact compileGlobal_hom H h
  · exact compileNonlocal_hom H h
  · exact compileName_hom H (hname hk) h
  · exact compileNamedExpr_hom H hq h ht
  · cases h
    rw [generic_hom H]
    rfl

end

theorem Binding.mapP_id : Binding.mapP id id = id := by
  funext b
  cases b
  simp [Binding.mapP, NameInfo.mapP]

theorem Instr.mapG_id (T : Ast → Ast) : Instr.mapG T id id = Instr.mapK T := by
  funext i
  cases i <;> simp [Instr.mapG, Instr.mapK, Instr.mapKR, Binding.mapP_id, StartSpec.mapP]

section
variable {T : Ast → Ast} {good : Ast → String → Bool} {okPos : Pos → Prop} (L : TLaws T good okPos)
include L

theorem TLaws.hom : NodeHom T id id good okPos (fun _ => True) where
  isNode := L.isNode
  kind := L.kind
  pos n := by rw [L.pos, Option.map_id]; rfl
  size := L.size
  children := L.children
  field_some := L.field_some
  field_none := L.field_none
  str := L.str
  int := L.int
  none := L.none
  list := L.list
  lit := L.lit
  idgood := L.idgood
  startLoc _ _ _ _ := rfl
  endLoc n _ _ _ := L.lastLoc n _
  mixLoc _ _ _ _ _ _ _ _ _ _ := rfl

theorem compile_trans {n : Ast} {prog : Prog} (h : compile n = .ok prog) (ht : TgtOK okPos prog)
    (hname : n.kind = "Name" → good n "id" = true) :
    compile (T n) = .ok (prog.map (Instr.mapK T)) := by
  rw [← Instr.mapG_id]
  exact compile_hom L.hom trivial (fun _ _ => trivial) h ht hname

end

end SuppModel.Extract
