/-
  Extract family — the full invariant of the extractor's state (`Good`): `Basic`, fresh name ids (`NamesOK`) and
  `Struct` on the skeleton.  Here: each primitive action keeps it.
-/
import SuppModel.Extract.LemmasStruct

namespace SuppModel.Extract
open SuppModel.Flow

def St.fsk (st : St) : FSk := st.flows.map (fun f => (f.scope, f.parents))
def St.ssk (st : St) : SSk := st.scopes.map (fun s => (s.kind, s.parent, s.flow))
def St.allNames (st : St) : List NameRec := st.flows.flatMap (·.names) ++ st.globalNames

structure NamesOK (st : St) : Prop where
  nodup : (st.allNames.map (·.id)).Nodup
  lt : ∀ n ∈ st.allNames, n.id < st.infos.length

structure Good (st : St) : Prop where
  basic : Basic st
  names : NamesOK st
  struct : Struct st.fsk st.ssk st.cur

theorem fsk_get {st : St} {i : Nat} {f : FlowRec} (h : st.flows[i]? = some f) : st.fsk[i]? = some (f.scope, f.parents) := by
  simp only [St.fsk, List.getElem?_map, h, Option.map_some]

theorem ssk_get {st : St} {i : Nat} {s : ScopeSt} (h : st.scopes[i]? = some s) : st.ssk[i]? = some (s.kind, s.parent, s.flow) := by
  simp only [St.ssk, List.getElem?_map, h, Option.map_some]

theorem flowScope_eq (st : St) (f : Nat) : st.flowScope f = scopeOf st.fsk f := by
  simp only [St.flowScope, scopeOf, St.fsk, List.getElem?_map]
  cases st.flows[f]? <;> rfl

theorem curScope_eq (st : St) : st.curScope = scopeOf st.fsk st.cur := flowScope_eq st st.cur

theorem map_modifyAt_same {α β} (sk : α → β) (g : α → α) (hg : ∀ x, sk (g x) = sk x) (l : List α) (i : Nat) :
    (modifyAt l i g).map sk = l.map sk := by
  induction l generalizing i with
  | nil => rfl
  | cons a as ih => cases i <;> simp [modifyAt, hg, ih]

theorem flatMap_modifyAt_same {α β} (nm : α → List β) (g : α → α) (hg : ∀ x, nm (g x) = nm x) (l : List α) (i : Nat) :
    (modifyAt l i g).flatMap nm = l.flatMap nm :=
  congrArg List.flatten (map_modifyAt_same nm g hg l i)

theorem insertLoc_perm (names : List NameRec) (r : NameRec) : (insertLoc names r).Perm (r :: names) := by
  unfold insertLoc
  split
  · split
    · exact List.perm_append_singleton r names
    · rw [List.append_assoc]
      exact List.perm_middle.trans (.of_eq (congrArg (r :: ·) (List.take_append_drop _ names)))
  · next h =>
    cases List.getLast?_eq_none_iff.mp h
    exact .refl _

/-- `r` arrives in flow `f`, or nowhere when there is no such flow -/
theorem flatMap_insert_perm (flows : List FlowRec) (f : Nat) (r : NameRec) :
    ∃ e, e.Sublist [r] ∧
      ((modifyAt flows f (fun fr => { fr with names := insertLoc fr.names r })).flatMap (·.names)).Perm
        (e ++ flows.flatMap (·.names)) := by
  induction flows generalizing f with
  | nil => exact ⟨[], List.nil_sublist _, .refl _⟩
  | cons x xs ih =>
    cases f with
    | zero =>
      simp only [modifyAt, List.flatMap_cons]
      exact ⟨[r], .refl _, (insertLoc_perm x.names r).append_right _⟩
    | succ f =>
      obtain ⟨e, he, hp⟩ := ih f
      simp only [modifyAt, List.flatMap_cons]
      exact ⟨e, he, (hp.append_left x.names).trans (List.perm_append_comm_assoc ..)⟩

theorem dictSet_perm (gn : List NameRec) (r : NameRec) :
    ∃ l', l'.Sublist gn ∧ (dictSet gn r).Perm (r :: l') := by
  induction gn with
  | nil => exact ⟨[], .refl _, .refl _⟩
  | cons m rest ih =>
    simp only [dictSet]
    split
    · exact ⟨rest, List.sublist_cons_self m rest, .refl _⟩
    · obtain ⟨l', hs, hp⟩ := ih
      exact ⟨m :: l', hs.cons_cons m, (hp.cons m).trans (.swap r m l')⟩

theorem NamesOK.step {st st' : St} (h : NamesOK st) {r : NameRec} (hr : r.id = st.infos.length)
    (hi : st'.infos.length = st.infos.length + 1) {l : List NameRec} (hs : l.Sublist (r :: st.allNames))
    (hp : st'.allNames.Perm l) : NamesOK st' := by
  have hlt : ∀ n ∈ st.allNames, n.id < r.id := fun n hn => hr ▸ h.lt n hn
  constructor
  · refine (hp.map _).nodup_iff.mpr (.sublist (hs.map _) (List.nodup_cons.mpr ⟨fun hm => ?_, h.nodup⟩))
    obtain ⟨n, hn, e⟩ := List.mem_map.mp hm
    exact Nat.lt_irrefl _ (e ▸ hlt n hn)
  · intro n hn
    rw [hi, ← hr]
    rcases List.mem_cons.mp (hs.subset (hp.subset hn)) with rfl | hn
    · exact Nat.lt_succ_self _
    · exact Nat.lt_succ_of_lt (hlt n hn)

theorem NamesOK.compName {st : St} (h : NamesOK st) (f : Nat) (b : Binding) : NamesOK (st.compName f b) := by
  obtain ⟨e, he, hp⟩ := flatMap_insert_perm st.flows f ⟨st.infos.length, b.name, b.loc, st.flowScope f⟩
  exact h.step rfl rfl (he.append_right st.allNames)
    ((hp.append_right st.globalNames).trans (.of_eq (List.append_assoc ..)))

theorem namesOK_same {st st' : St} (h : NamesOK st) (hn : st'.allNames = st.allNames) (hi : st'.infos = st.infos) :
    NamesOK st' :=
  ⟨hn ▸ h.nodup, hn ▸ hi ▸ h.lt⟩

theorem Good.setCur {st : St} (h : Good st) {v : Nat} (hv : v < st.fsk.length) : Good { st with cur := v } :=
  ⟨basic_preserved.setCur st v h.basic, namesOK_same h.names rfl rfl, h.struct.setCur hv⟩

theorem Good.scopesSame {st st' : St} (h : Good st) (hb : Basic st') (hf : st'.flows = st.flows)
    (hs : st'.ssk = st.ssk) (hg : st'.globalNames = st.globalNames) (hi : st'.infos = st.infos) (hc : st'.cur = st.cur) :
    Good st' :=
  ⟨hb, namesOK_same h.names (by unfold St.allNames; rw [hf, hg]) hi, by unfold St.fsk; rw [hf, hs, hc]; exact h.struct⟩

theorem Good.compName {st : St} (h : Good st) (f : Nat) (b : Binding) :
    Good (st.compName f b) ∧ (st.compName f b).fsk = st.fsk ∧ (st.compName f b).cur = st.cur :=
  -- `by rfl` is checked once the goal has fixed the modifying function; a plain `rfl` would choose the identity for it
  have e1 : (st.compName f b).fsk = st.fsk := map_modifyAt_same _ _ (fun _ => by rfl) _ _
  ⟨⟨basic_preserved.compName st f b h.basic, h.names.compName f b, e1 ▸ h.struct⟩, e1, rfl⟩

theorem Good.newFlow {st : St} (h : Good st) {S : Nat} {ps : List Parent} (hS : S < st.ssk.length)
    (hps : ∀ p ∈ ps, PIn st.fsk S p) :
    Good (st.newFlow S ps).1 ∧ (st.newFlow S ps).1.fsk = st.fsk ++ [(S, ps)] ∧ (st.newFlow S ps).1.cur = st.cur ∧
    (st.newFlow S ps).2 = st.fsk.length :=
  have e1 : (st.newFlow S ps).1.fsk = st.fsk ++ [(S, ps)] := List.map_append
  ⟨⟨basic_preserved.newFlow st S ps h.basic, namesOK_same h.names (by simp [St.allNames, St.newFlow]) rfl,
    e1 ▸ h.struct.newFlow hS hps⟩, e1, rfl, (List.length_map _).symm⟩

theorem Good.addLoop {st : St} (h : Good st) {hd t : Nat} (ht : FIn st.fsk t (scopeOf st.fsk hd)) :
    Good (st.addLoop hd t) ∧ MonoF st.fsk (st.addLoop hd t).fsk ∧ (st.addLoop hd t).cur = st.cur :=
  have e1 : (st.addLoop hd t).fsk = modifyAt st.fsk hd (fun x => (x.1, x.2 ++ [Parent.loop hd t])) :=
    (modifyAt_map (fun f : FlowRec => (f.scope, f.parents)) _ _ _ _ fun _ _ => rfl).symm
  ⟨⟨basic_preserved.addLoop st hd t h.basic,
    namesOK_same h.names (congrArg (· ++ st.globalNames) (flatMap_modifyAt_same _ _ (fun _ => by rfl) _ _)) rfl,
    e1 ▸ h.struct.addLoop ht⟩, e1 ▸ monoF_modify _ _ _ fun _ => rfl, rfl⟩

theorem Good.setFinal {st : St} (h : Good st) :
    Good st.setFinal ∧ st.setFinal.fsk = st.fsk ∧ st.setFinal.cur = st.cur :=
  have e2 : st.setFinal.ssk = modifyAt st.ssk (scopeOf st.fsk st.cur) (fun s => (s.1, s.2.1, st.cur)) :=
    curScope_eq st ▸ (modifyAt_map (fun s : ScopeSt => (s.kind, s.parent, s.flow)) _ _ _ _ fun _ _ => rfl).symm
  ⟨⟨basic_preserved.setFinal st h.basic, namesOK_same h.names rfl rfl, e2 ▸ h.struct.setFinal⟩, rfl, rfl⟩

/-- bookkeeping inside one scope that touches neither its id, kind, parent nor final flow -/
theorem Good.modifyScope {st : St} (h : Good st) (i : Nat) (g : ScopeSt → ScopeSt) (hid : ∀ s, (g s).id = s.id)
    (hsk : ∀ s, ((g s).kind, (g s).parent, (g s).flow) = (s.kind, s.parent, s.flow)) :
    Good { st with scopes := modifyAt st.scopes i g } :=
  h.scopesSame ⟨h.basic.flowIds, forall_idx_modify h.basic.scopeIds fun s _ e => (hid s).trans e, h.basic.nameScope⟩ rfl
    (map_modifyAt_same _ g hsk _ _) rfl rfl rfl

theorem Good.globalDecl {st : St} (h : Good st) (ns : List String) : Good (st.globalDecl ns) :=
  h.modifyScope _ _ (fun _ => rfl) fun _ => rfl

theorem Good.nonlocalDecl {st : St} (h : Good st) (ns : List String) : Good (st.nonlocalDecl ns) :=
  h.modifyScope _ _ (fun _ => rfl) fun _ => rfl

theorem Good.addReturn {st : St} (h : Good st) : Good st.addReturn :=
  h.modifyScope _ _ (fun _ => by split <;> rfl) fun _ => by split <;> rfl

theorem Good.addName {st : St} (h : Good st) (f : Nat) (b : Binding) :
    Good (st.addName f b) ∧ (st.addName f b).fsk = st.fsk ∧ (st.addName f b).cur = st.cur := by
  have hc := h.compName f b
  rw [St.addName_eq]
  split
  · obtain ⟨l', hs, hp⟩ := dictSet_perm st.globalNames ⟨st.infos.length, b.name, b.loc, st.flowScope f⟩
    exact ⟨⟨h.basic.congr rfl rfl, h.names.step rfl rfl ((hs.append_left _).cons_cons _)
      ((hp.append_left _).trans List.perm_middle), h.struct⟩, rfl, rfl⟩
  · split
    · exact hc
    · exact ⟨hc.1.modifyScope _ _ (fun _ => rfl) fun _ => rfl, hc.2⟩

theorem Good.newScope {st : St} (h : Good st) {k : ScopeKind} (hk : k = .func ∨ k = .cls) :
    Good (st.newScope k).1 ∧ MonoF st.fsk (st.newScope k).1.fsk ∧ (st.newScope k).1.cur = st.cur ∧
    FIn (st.newScope k).1.fsk (st.newScope k).2.2 (st.newScope k).2.1 :=
  have e1 : (st.newScope k).1.fsk = st.fsk ++ [(st.ssk.length, [])] := by
    rw [St.ssk, List.length_map]; exact List.map_append
  have e2 : (st.newScope k).1.ssk = st.ssk ++ [(k, some (scopeOf st.fsk st.cur), st.fsk.length)] := by
    rw [← curScope_eq, St.fsk, List.length_map]; exact List.map_append
  ⟨⟨basic_preserved.newScope st k h.basic, namesOK_same h.names (by simp [St.allNames, St.newScope]) rfl,
    e1 ▸ e2 ▸ h.struct.newScope hk⟩, e1 ▸ monoF_append _ _, rfl, _, fsk_get List.getElem?_concat_length, rfl⟩

theorem good_init : Good St.init :=
  ⟨basic_init, ⟨.nil, List.forall_mem_nil _⟩, struct_init⟩

end SuppModel.Extract
