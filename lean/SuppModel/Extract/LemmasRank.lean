/-
  Extract family — every extracted graph is RANKED (SuppModel/Flow/Rank.lean) by
  (index of the flow's scope) * (#flows + 1) + (creation index): an ordinary predecessor is an earlier flow of the same
  scope; a root flow depends on the final flow of a scope with a smaller index (scope parents are earlier scopes).
-/
import SuppModel.Extract.LemmasWfFull
import SuppModel.Flow.LemmasRank

namespace SuppModel.Extract
open SuppModel.Flow

def rankArr (st : St) : Array Nat := (st.flows.map (fun f => f.scope * (st.flows.length + 1) + f.id)).toArray

theorem rankOf_arr {st : St} (hg : Good st) {i : Nat} {f : FlowRec} (hf : st.flows[i]? = some f) :
    rankOf (rankArr st) i = f.scope * (st.flows.length + 1) + i := by
  have hid := hg.basic.flowIds i f hf
  simp [rankOf, rankArr, Array.getD_eq_getD_getElem?, hf, hid]

/-- where the `names` of scope `s` ends up: the builtin table, or the final flow of a scope of index ≤ s -/
theorem scopeTarget_spec {st : St} (hg : Good st) (b : List String) :
    ∀ (fuel s : Nat), s < fuel → s < st.scopes.length →
      scopeTarget (st.toGraph b) fuel s = some none ∨
      ∃ q A, scopeTarget (st.toGraph b) fuel s = some (some q) ∧ A ≤ s ∧ FIn st.fsk q A := by
  intro fuel
  induction fuel with
  | zero => intro s h; omega
  | succ fuel ih =>
    intro s hs hl
    have hsc : st.scopes[s]? = some st.scopes[s] := List.getElem?_eq_getElem hl
    have hssk := ssk_get hsc
    simp only [scopeTarget, g_scope? hg b, hsc, Option.map_some, ScopeSt.toRec]
    cases hk : st.scopes[s].kind with
    | builtin => exact Or.inl rfl
    | module =>
      right
      exact ⟨_, s, rfl, Nat.le_refl _, hg.struct.final s _ hssk (by simp [hk])⟩
    | func =>
      right
      exact ⟨_, s, rfl, Nat.le_refl _, hg.struct.final s _ hssk (by simp [hk])⟩
    | cls =>
      have hp := hg.struct.parent s _ hssk
      have hnp := hg.struct.hasParent s _ hssk (by simp [hk])
      rcases hp with hp | ⟨p, hp, hlt⟩
      · exact absurd hp hnp
      · simp only at hp
        simp only [hp]
        rcases ih p (by omega) (by omega) with h | ⟨q, A, h, hA, hq⟩
        · exact Or.inl h
        · exact Or.inr ⟨q, A, h, by omega, hq⟩

theorem good_validRankU {st : St} (hg : Good st) (b : List String) :
    validRankU (st.toGraph b) (rankArr st) = true := by
  unfold validRankU
  simp only [List.all_eq_true]
  intro fr hfr
  simp only [St.toGraph] at hfr
  obtain ⟨i, hi⟩ := List.getElem?_of_mem hfr
  have hid := hg.basic.flowIds i fr hi
  have hfsk := fsk_get hi
  have hri := rankOf_arr hg hi
  have hN : i < st.flows.length := (List.getElem?_eq_some_iff.mp hi).1
  -- an existing flow q of scope A has rank A * (N + 1) + q
  have hrank : ∀ q A, FIn st.fsk q A → ((st.toGraph b).flow? q).isSome = true ∧
      rankOf (rankArr st) q = A * (st.flows.length + 1) + q ∧ q < st.flows.length := by
    intro q A hq
    obtain ⟨fq, h1, h2⟩ := fin_flow hq
    exact ⟨by rw [g_flow? hg b, h1]; rfl, by rw [rankOf_arr hg h1, h2], (List.getElem?_eq_some_iff.mp h1).1⟩
  unfold validFlowU
  cases hps : fr.parents with
  | nil =>
    simp only
    -- the root flow: its scope exists; through the parent of the scope
    have hsl := hg.struct.fscope i _ hfsk
    simp only [St.ssk, List.length_map] at hsl
    have hsc : st.scopes[fr.scope]? = some st.scopes[fr.scope] := List.getElem?_eq_getElem hsl
    have hssk := ssk_get hsc
    simp only [rootTarget, g_scope? hg b, hsc, Option.map_some, ScopeSt.toRec]
    rcases hg.struct.parent fr.scope _ hssk with hp | ⟨p, hp, hlt⟩
    · simp only at hp; simp only [hp]
    · simp only at hp
      simp only [hp]
      have hlen : (st.toGraph b).scopes.length = st.scopes.length := by simp [St.toGraph]
      rw [hlen]
      rcases scopeTarget_spec hg b (st.scopes.length + 1) p (by omega) (by omega) with h | ⟨q, A, h, hA, hq⟩
      · simp only [h]
      · obtain ⟨h1, h2, h3⟩ := hrank q A hq
        simp only [h, Bool.and_eq_true, decide_eq_true_eq]
        refine ⟨h1, ?_⟩
        rw [hid, hri, h2]
        have : (A + 1) * (st.flows.length + 1) ≤ fr.scope * (st.flows.length + 1) :=
          Nat.mul_le_mul_right _ (by omega)
        rw [Nat.add_mul] at this
        omega
  | cons p0 ps =>
    simp only [List.all_eq_true]
    intro p hp
    have hP := hg.struct.parents i _ hfsk p (by simp only; rw [hps]; exact hp)
    cases p with
    | flow q =>
      obtain ⟨h1, h2, _⟩ := hrank q fr.scope hP
      have hlt := hg.struct.fwd i _ hfsk q (by simp only; rw [hps]; exact hp)
      simp only [Bool.and_eq_true, decide_eq_true_eq]
      refine ⟨h1, ?_⟩
      rw [hid, hri, h2]
      omega
    | loop l t =>
      exact (hrank t fr.scope hP).1

end SuppModel.Extract
