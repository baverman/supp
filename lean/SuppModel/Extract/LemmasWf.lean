/-
  Extract family — index-wise list lemmas for the extractor's state, and the first part of `Graph.wf`
  (SuppModel/Flow/Scoping.lean) through `extract_preserves`: flow and scope ids are creation indices, every
  name of a flow carries the flow's scope (`Basic`).
-/
import SuppModel.Extract.LemmasInv

namespace SuppModel.Extract
open SuppModel.Flow

theorem getElem?_modifyAt {α} (l : List α) (i j : Nat) (g : α → α) :
    (modifyAt l i g)[j]? = if j = i then l[j]?.map g else l[j]? := by
  induction l generalizing i j with
  | nil => simp [modifyAt]
  | cons a as ih =>
    cases i with
    | zero => cases j <;> simp [modifyAt]
    | succ i =>
      cases j with
      | zero => simp [modifyAt]
      | succ j => simp [modifyAt, ih]

theorem length_modifyAt {α} (l : List α) (i : Nat) (g : α → α) : (modifyAt l i g).length = l.length := by
  induction l generalizing i with
  | nil => rfl
  | cons a as ih => cases i <;> simp [modifyAt, ih]

theorem modifyAt_map {α β} (hm : α → β) (g : α → α) (g' : β → β) (l : List α) (i : Nat)
    (hc : ∀ x ∈ l, g' (hm x) = hm (g x)) : modifyAt (l.map hm) i g' = (modifyAt l i g).map hm := by
  induction l generalizing i with
  | nil => rfl
  | cons a as ih =>
    rw [List.forall_mem_cons] at hc
    cases i with
    | zero => simp only [List.map_cons, modifyAt, hc.1]
    | succ i => simp only [List.map_cons, modifyAt, ih i hc.2]

theorem mem_insertLoc {names : List NameRec} {n x : NameRec} (h : x ∈ insertLoc names n) : x ∈ names ∨ x = n := by
  unfold insertLoc at h
  split at h
  · split at h
    · simp only [List.mem_append, List.mem_singleton] at h; exact h
    · simp only [List.mem_append, List.mem_singleton] at h
      rcases h with (h | h) | h
      · exact Or.inl (List.mem_of_mem_take h)
      · exact Or.inr h
      · exact Or.inl (List.mem_of_mem_drop h)
  · simp only [List.mem_singleton] at h; exact Or.inr h

theorem getElem?_append_singleton {α} {l : List α} {x y : α} {i : Nat} (h : (l ++ [x])[i]? = some y) :
    l[i]? = some y ∨ (i = l.length ∧ y = x) := by
  simp only [List.getElem?_append] at h
  split at h
  · exact Or.inl h
  · rename_i hlt
    cases hi : i - l.length with
    | zero =>
      rw [hi] at h
      simp at h
      exact Or.inr ⟨by omega, h.symm⟩
    | succ k => rw [hi] at h; simp at h

/-! a property of every element and its index, under the three ways the extractor changes a list -/

theorem forall_idx_append {α} {P : Nat → α → Prop} {l : List α} {x : α}
    (h : ∀ i y, l[i]? = some y → P i y) (hx : P l.length x) : ∀ i y, (l ++ [x])[i]? = some y → P i y := by
  intro i y hy
  rcases getElem?_append_singleton hy with hy | ⟨rfl, rfl⟩
  · exact h i y hy
  · exact hx

theorem forall_idx_modify {α} {P : Nat → α → Prop} {l : List α} {k : Nat} {g : α → α}
    (h : ∀ i y, l[i]? = some y → P i y) (hg : ∀ y, l[k]? = some y → P k y → P k (g y)) :
    ∀ i y, (modifyAt l k g)[i]? = some y → P i y := by
  intro i y hy
  rw [getElem?_modifyAt] at hy
  split at hy
  · next hi =>
    subst hi
    obtain ⟨z, hz, rfl⟩ := Option.map_eq_some_iff.mp hy
    exact hg z hz (h i z hz)
  · exact h i y hy

theorem forall_idx_cons {α} {P : Nat → α → Prop} {a : α} {l : List α} (ha : P 0 a)
    (hl : ∀ i y, l[i]? = some y → P (i + 1) y) : ∀ i y, (a :: l)[i]? = some y → P i y
  | 0, _, h => by cases h; exact ha
  | i + 1, y, h => hl i y h

theorem forall_mem_modifyAt {α} {P : α → Prop} {l : List α} {k : Nat} {g : α → α} (h : ∀ x ∈ l, P x)
    (hg : ∀ x ∈ l, P x → P (g x)) : ∀ x ∈ modifyAt l k g, P x := by
  intro x hx
  rcases mem_modifyAt hx with hx | ⟨y, hy, rfl⟩
  · exact h x hx
  · exact hg y hy (h y hy)

theorem forall_mem_append_singleton {α} {P : α → Prop} {l : List α} {a : α} (h : ∀ x ∈ l, P x) (ha : P a) :
    ∀ x ∈ l ++ [a], P x :=
  List.forall_mem_append.mpr ⟨h, List.forall_mem_singleton.mpr ha⟩

structure Basic (st : St) : Prop where
  flowIds : ∀ (i : Nat) (f : FlowRec), st.flows[i]? = some f → f.id = i
  scopeIds : ∀ (i : Nat) (s : ScopeSt), st.scopes[i]? = some s → s.id = i
  nameScope : ∀ f ∈ st.flows, ∀ n ∈ f.names, n.scope = f.scope

theorem Basic.congr {st st' : St} (h : Basic st) (hf : st'.flows = st.flows) (hs : st'.scopes = st.scopes) : Basic st' :=
  ⟨hf ▸ h.flowIds, hs ▸ h.scopeIds, hf ▸ h.nameScope⟩

theorem basic_init : Basic St.init :=
  ⟨forall_idx_cons rfl nofun, forall_idx_cons rfl (forall_idx_cons rfl nofun),
    List.forall_mem_singleton.mpr nofun⟩

/-- `insert_loc` of a name that carries the scope of flow `f` into the names of flow `f` -/
theorem basic_flows_insert {st : St} (hb : Basic st) (f : Nat) (r : NameRec) (hr : r.scope = st.flowScope f) :
    (∀ (i : Nat) (fr : FlowRec), (modifyAt st.flows f (fun fr => { fr with names := insertLoc fr.names r }))[i]? = some fr → fr.id = i) ∧
    (∀ fr ∈ modifyAt st.flows f (fun fr => { fr with names := insertLoc fr.names r }), ∀ n ∈ fr.names, n.scope = fr.scope) := by
  refine ⟨forall_idx_modify hb.flowIds fun _ _ h => h, fun fr hfr => ?_⟩
  obtain ⟨i, hi⟩ := List.getElem?_of_mem hfr
  refine forall_idx_modify (P := fun _ fr => ∀ n ∈ fr.names, n.scope = fr.scope)
    (fun i y hy => hb.nameScope y (List.mem_of_getElem? hy)) (fun y hy hP n hn => ?_) i fr hi
  rcases mem_insertLoc hn with hn | rfl
  · exact hP n hn
  · simp only [hr, St.flowScope, hy]

theorem basic_preserved : Preserved Basic where
  setCur := fun _ _ h => h.congr rfl rfl
  newFlow := fun _ _ _ h =>
    ⟨forall_idx_append h.flowIds rfl, h.scopeIds, forall_mem_append_singleton h.nameScope nofun⟩
  addName := by
    intro st f b h
    obtain ⟨h1, h2⟩ := basic_flows_insert h f ⟨st.infos.length, b.name, b.loc, st.flowScope f⟩ rfl
    rw [St.addName_eq]
    split
    · exact h.congr rfl rfl
    · split
      · exact ⟨h1, h.scopeIds, h2⟩
      · exact ⟨h1, forall_idx_modify h.scopeIds fun _ _ h => h, h2⟩
  compName := fun st f b h =>
    have ⟨h1, h2⟩ := basic_flows_insert h f ⟨st.infos.length, b.name, b.loc, st.flowScope f⟩ rfl
    ⟨h1, h.scopeIds, h2⟩
  addLoop := fun _ _ _ h =>
    ⟨forall_idx_modify h.flowIds fun _ _ h => h, h.scopeIds, forall_mem_modifyAt h.nameScope fun _ _ h => h⟩
  setFinal := fun _ h => ⟨h.flowIds, forall_idx_modify h.scopeIds fun _ _ h => h, h.nameScope⟩
  newScope := fun _ _ h =>
    ⟨forall_idx_append h.flowIds rfl, forall_idx_append h.scopeIds rfl, forall_mem_append_singleton h.nameScope nofun⟩
  globalDecl := fun _ _ h => ⟨h.flowIds, forall_idx_modify h.scopeIds fun _ _ h => h, h.nameScope⟩
  nonlocalDecl := fun _ _ h => ⟨h.flowIds, forall_idx_modify h.scopeIds fun _ _ h => h, h.nameScope⟩
  addReturn := fun _ h =>
    ⟨h.flowIds, forall_idx_modify h.scopeIds fun s _ h => by split <;> exact h, h.nameScope⟩
  flowAttr := fun _ _ h => h.congr rfl rfl
  attrAssign := fun _ _ h => h.congr rfl rfl
  addImport := fun _ _ h => h.congr rfl rfl
  addStar := fun _ _ h => h.congr rfl rfl
  clearStars := fun _ h => h.congr rfl rfl

theorem extract_basic (lines : List Text.Str) (mods : List (String × List String)) (t : Ast) (st : St)
    (h : extract lines mods t = .ok st) : Basic st :=
  extract_preserves basic_preserved basic_init lines mods t st h

end SuppModel.Extract
