/-
  Extract family — layout independence, layer 1: the interpreter on the two layouts.  If the actions of every
  visit method on the re-positioned tree are the re-positioned actions (`CompileComm`, layer 2) and `ψ` preserves the
  order of the locations the extractor stores (`S`), the two runs stay in correspondence (`Sim`): the actions keep
  `Lay` (`stepRel_mapP`), so `extract_lift` applies.
-/
import SuppModel.Extract.Layout
import SuppModel.Extract.LemmasExecSim
import SuppModel.Extract.LemmasWf
import SuppModel.Flow.LemmasScoping

namespace SuppModel.Extract
open SuppModel.Flow

theorem mapPosList_eq (φ : Pos → Pos) (l : List Ast) : mapPosList φ l = l.map (Ast.mapPos φ) := by
  induction l with
  | nil => rfl
  | cons x xs ih => simp [mapPosList, ih]

@[simp] theorem mapPos_isNode (φ : Pos → Pos) (n : Ast) : (n.mapPos φ).isNode = n.isNode := by
  cases n <;> rfl

mutual
theorem mapPos_size (φ : Pos → Pos) : ∀ (n : Ast), (n.mapPos φ).size = n.size
  | .node k p ns vs => by simp only [Ast.mapPos, Ast.size, mapPosList_size φ vs]
  | .list items => by simp only [Ast.mapPos, Ast.size, mapPosList_size φ items]
  | .str _ => rfl
  | .int _ => rfl
  | .none => rfl
theorem mapPosList_size (φ : Pos → Pos) : ∀ (l : List Ast), sizeList (mapPosList φ l) = sizeList l
  | [] => rfl
  | x :: xs => by simp only [mapPosList, sizeList, mapPos_size φ x, mapPosList_size φ xs]
end

theorem mapPos_childrenOfVal (φ : Pos → Pos) (v : Ast) :
    childrenOfVal (v.mapPos φ) = (childrenOfVal v).map (Ast.mapPos φ) := by
  cases v with
  | list items =>
    rw [Ast.mapPos, mapPosList_eq, childrenOfVal, childrenOfVal, List.filter_map]
    exact congrArg _ (List.filter_congr fun x _ => mapPos_isNode φ x)
  | _ => rfl

theorem mapPos_children (φ : Pos → Pos) (n : Ast) : (n.mapPos φ).children = n.children.map (Ast.mapPos φ) := by
  cases n with
  | node k p ns vs =>
    rw [Ast.mapPos, mapPosList_eq, Ast.children, Ast.children, Ast.vals, Ast.vals, List.flatMap_map, List.map_flatMap]
    simp only [mapPos_childrenOfVal]
  | _ => rfl

section
variable {φ ψ : Pos → Pos} {S : List Pos}

theorem OrderPreserving.sub {ps qs : List Pos} (h : OrderPreserving ψ qs) (hs : ∀ p ∈ ps, p ∈ qs) : OrderPreserving ψ ps :=
  fun a ha b hb => h a (hs a ha) b (hs b hb)

theorem Sim.flowScope {st st' : St} (h : Sim φ ψ st st') (f : Nat) : st'.flowScope f = st.flowScope f := by
  simp only [St.flowScope, h.flows, List.getElem?_map]
  cases st.flows[f]? <;> rfl

theorem Sim.curScope {st st' : St} (h : Sim φ ψ st st') : st'.curScope = st.curScope := by
  simp only [St.curScope, h.cur, h.flowScope]

theorem Sim.isGlobalDecl {st st' : St} (h : Sim φ ψ st st') (s : Nat) (x : String) :
    st'.isGlobalDecl s x = st.isGlobalDecl s x := by
  simp only [St.isGlobalDecl, h.scopes]

theorem Sim.isNonlocalDecl {st st' : St} (h : Sim φ ψ st st') (s : Nat) (x : String) :
    st'.isNonlocalDecl s x = st.isNonlocalDecl s x := by
  simp only [St.isNonlocalDecl, h.scopes]

theorem Sim.resolve {st st' : St} (h : Sim φ ψ st st') (f : FlowRef) (env : Env) : f.resolve env st' = f.resolve env st := by
  cases f <;> simp only [FlowRef.resolve, h.cur]

theorem dictSet_map (gn : List NameRec) (r : NameRec) :
    dictSet (gn.map (NameRec.mapLoc ψ)) (NameRec.mapLoc ψ r) = (dictSet gn r).map (NameRec.mapLoc ψ) := by
  induction gn with
  | nil => rfl
  | cons m rest ih =>
    simp only [List.map_cons, dictSet, NameRec.mapLoc]
    split
    · rfl
    · exact congrArg _ ih

/-- the two runs correspond, and every location the first has stored is one of `S`.  In the lemmas below a primed
    argument is that of the second run, equal to the first's by hypothesis: they apply to the states as the
    interpreter writes them, and the equation is proved afterwards. -/
abbrev Lay (φ ψ : Pos → Pos) (S : List Pos) (st st' : St) : Prop := Sim φ ψ st st' ∧ LocsIn S st

variable {st st' : St}

theorem Lay.ite {s s' t t' : St} (c : Prop) [Decidable c] (hs : Lay φ ψ S s s') (ht : Lay φ ψ S t t') :
    Lay φ ψ S (if c then s else t) (if c then s' else t') := by
  split
  · exact hs
  · exact ht

theorem Lay.compName (h : Lay φ ψ S st st') (hop : OrderPreserving ψ S) {f f' : Nat} (hf : f' = f) {b b' : Binding}
    (hn : b'.name = b.name) (hloc : b'.loc = ψ b.loc) (hb : b.loc ∈ S) :
    Lay φ ψ S (st.compName f b) (st'.compName f' b') := by
  subst hf
  simp only [St.compName, h.1.flowScope, h.1.infos, hn, hloc]
  refine ⟨{ h.1 with infos := congrArg (· + 1) h.1.infos, flows := ?_ }, ⟨?_, h.2.stars⟩⟩
  · rw [h.1.flows]
    exact modifyAt_map _ _ _ _ _ fun x hx => congrArg (FlowRec.mk _ _ · _) (insertLoc_map ψ _ ⟨_, _, b.loc, _⟩
      (OrderPreserving.sub hop (List.forall_mem_cons.mpr ⟨hb, List.forall_mem_map.mpr (h.2.names x hx)⟩)))
  · exact forall_mem_modifyAt h.2.names fun _ _ hy n hn => (mem_insertLoc hn).elim (hy n) (· ▸ hb)

theorem Lay.setCur (h : Lay φ ψ S st st') {v v' : Nat} (hv : v' = v) :
    Lay φ ψ S { st with cur := v } { st' with cur := v' } :=
  ⟨{ h.1 with cur := hv }, ⟨h.2.names, h.2.stars⟩⟩

theorem Lay.setScopes (h : Lay φ ψ S st st') {sc sc' : List ScopeSt} (hsc : sc' = sc) :
    Lay φ ψ S { st with scopes := sc } { st' with scopes := sc' } :=
  ⟨{ h.1 with scopes := hsc }, ⟨h.2.names, h.2.stars⟩⟩

theorem Lay.addName (h : Lay φ ψ S st st') (hop : OrderPreserving ψ S) {f f' : Nat} (hf : f' = f) {b b' : Binding}
    (hn : b'.name = b.name) (hloc : b'.loc = ψ b.loc) (hb : b.loc ∈ S) : Lay φ ψ S (st.addName f b) (st'.addName f' b') := by
  have hc := h.compName hop hf hn hloc hb
  subst hf
  simp only [St.addName_eq, h.1.flowScope, h.1.infos, hn, hloc, h.1.isGlobalDecl, h.1.isNonlocalDecl]
  exact Lay.ite _ ⟨{ h.1 with infos := congrArg (· + 1) h.1.infos, globals := (congrArg (dictSet · _) h.1.globals).trans (dictSet_map (ψ := ψ) _
    { id := st.infos.length, name := b.name, loc := b.loc, scope := st.flowScope f' }) }, ⟨h.2.names, h.2.stars⟩⟩
    (Lay.ite _ hc (hc.setScopes (congrArg (modifyAt · _ _) h.1.scopes)))

theorem sim_scopes {st st' : St} (h : Sim φ ψ st st') (hl : LocsIn S st) (g : List ScopeSt → List ScopeSt) :
    Sim φ ψ { st with scopes := g st.scopes } { st' with scopes := g st'.scopes } ∧
      LocsIn S { st with scopes := g st.scopes } :=
  Lay.setScopes ⟨h, hl⟩ (congrArg g h.scopes)

theorem Lay.pushFlow (h : Lay φ ψ S st st') {fr fr' : FlowRec} (hfr : fr' = fr) (hn : fr.names = []) :
    Lay φ ψ S { st with flows := st.flows ++ [fr] } { st' with flows := st'.flows ++ [fr'] } := by
  subst hfr
  refine ⟨{ h.1 with flows := ?_ }, ⟨forall_mem_append_singleton h.2.names (hn ▸ nofun), h.2.stars⟩⟩
  cases fr'; cases hn; simp [h.1.flows, mapNames]

theorem Lay.newScope (h : Lay φ ψ S st st') (k : ScopeKind) :
    Lay φ ψ S (st.newScope k).1 (st'.newScope k).1 ∧ (st'.newScope k).2.2 = (st.newScope k).2.2 :=
  ⟨(h.pushFlow (by rw [h.1.flows, h.1.scopes, List.length_map]) rfl).setScopes
      (by rw [h.1.flows, h.1.scopes, h.1.curScope, List.length_map]),
    by simp only [St.newScope, h.1.flows, List.length_map]⟩

theorem Lay.addLoop (h : Lay φ ψ S st st') {a a' b b' : Nat} (ha : a' = a) (hb : b' = b) :
    Lay φ ψ S (st.addLoop a b) (st'.addLoop a' b') := by
  subst ha hb
  refine ⟨{ h.1 with flows := ?_ }, ⟨forall_mem_modifyAt h.2.names fun _ _ hy => hy, h.2.stars⟩⟩
  simp only [St.addLoop, h.1.flows]
  exact modifyAt_map _ _ _ _ _ fun _ _ => rfl

theorem resolve_name (lines : List Text.Str) (b : Binding) : (b.resolve lines).name = b.name ∧ (b.resolve lines).loc = b.loc := by
  unfold Binding.resolve
  split <;> exact ⟨rfl, rfl⟩

/-- `add_name` of a binding and of its counterpart, each found in its own text -/
theorem Lay.addResolved (h : Lay φ ψ S st st') (hop : OrderPreserving ψ S) (lines lines' : List Text.Str) {f f' : Nat}
    (hf : f' = f) (b : Binding) (hb : b.loc ∈ S) :
    Lay φ ψ S (st.addName f (b.resolve lines)) (st'.addName f' ((b.mapP φ ψ).resolve lines')) :=
  h.addName hop hf ((resolve_name lines' (b.mapP φ ψ)).1.trans (resolve_name lines b).1.symm)
    ((resolve_name lines' (b.mapP φ ψ)).2.trans (congrArg ψ (resolve_name lines b).2.symm))
    ((resolve_name lines b).2 ▸ hb)

theorem Lay.foldlAddName (hop : OrderPreserving ψ S) {f f' : Nat} (hf : f' = f) (args : List Binding)
    (hargs : ∀ a ∈ args, a.loc ∈ S) : ∀ {st st'}, Lay φ ψ S st st' →
      Lay φ ψ S (args.foldl (fun st a => st.addName f a) st) ((args.map (Binding.mapP φ ψ)).foldl (fun st a => st.addName f' a) st') := by
  induction args with
  | nil => exact id
  | cons a as ih =>
    rw [List.forall_mem_cons] at hargs
    exact fun h => ih hargs.2 (h.addName hop hf rfl rfl hargs.1)

theorem stepRel_mapP (hop : OrderPreserving ψ S) (lines lines' : List Text.Str) :
    StepRel lines lines' (Lay φ ψ S) (Ast.mapPos φ) (Instr.mapP φ ψ) (fun i => ∀ l ∈ i.locs, l ∈ S) where
  visit := fun _ => ⟨rfl, fun _ hl => nomatch hl⟩
  kids := fun i => by cases i <;> rfl
  pre := by
    intro i env st st' hP h
    have hs := h.1
    cases i with
    | visit _ | saveCur _ => exact h
    | visitIn _ _ _ | setCur _ => exact h.setCur (by rw [hs.cur])
    | makeFlow d ps => exact h.pushFlow (by rw [hs.cur, hs.curScope, hs.flows, List.length_map]) rfl
    | setFinal => exact h.setScopes (by rw [hs.cur, hs.curScope, hs.scopes])
    | globalDecl _ | nonlocalDecl _ | addReturn => exact h.setScopes (by rw [hs.curScope, hs.scopes])
    | loop a b => exact h.addLoop (by rw [hs.cur]) (by rw [hs.cur])
    | addName f b => exact h.addResolved hop lines lines' (hs.resolve f env) b (hP _ List.mem_cons_self)
    | compName f b => exact h.compName hop (by rw [hs.cur]) rfl rfl (hP _ List.mem_cons_self)
    | flowAttr q id f =>
      exact ⟨{ hs with flowAttrs := by simp [Instr.pre, Instr.mapP, hs.flowAttrs, hs.resolve] }, ⟨h.2.names, h.2.stars⟩⟩
    | attrAssign q =>
      exact ⟨{ hs with attrAssigns := by simp [Instr.pre, Instr.mapP, hs.attrAssigns, hs.curScope] }, ⟨h.2.names, h.2.stars⟩⟩
    | addImport x => exact ⟨{ hs with imports := congrArg (x :: ·) hs.imports }, ⟨h.2.names, h.2.stars⟩⟩
    | addStar a b c =>
      refine ⟨{ hs with stars := by simp [Instr.pre, Instr.mapP, hs.stars, hs.cur] }, ⟨h.2.names, fun s hm => ?_⟩⟩
      rcases List.mem_cons.mp hm with rfl | hm
      · exact hP _ List.mem_cons_self
      · exact h.2.stars s hm
    | scopeBody cls self register args body =>
      have hlocs := List.forall_mem_cons.mp hP
      obtain ⟨h1, e⟩ := h.newScope (if cls then .cls else .func)
      have h2 := Lay.foldlAddName hop e args (fun a ha => hlocs.2 _ (List.mem_map_of_mem ha)) h1
      exact (Lay.ite _ (h2.addResolved hop lines lines' hs.cur self hlocs.1) h2).setCur e
  post := by
    intro i env st st' r r' _ h hr
    cases i with
    | visitIn cs f d => exact ⟨by simp only [Instr.mapP, Instr.post, hr.1.cur], hr.setCur h.1.cur⟩
    | scopeBody cls self register args body => exact ⟨rfl, hr.setCur h.1.cur⟩
    | saveCur d => exact ⟨by simp only [Instr.mapP, Instr.post, h.1.cur], hr⟩
    | makeFlow d ps =>
      exact ⟨by simp only [Instr.mapP, Instr.post, St.makeFlow, St.newFlow, h.1.flows, List.length_map], hr⟩
    | _ => exact ⟨rfl, hr⟩

/-- folding corresponding steps over two lists whose elements agree on a key -/
theorem foldl_rel₂ {α β γ γ' κ : Type} {R : α → β → Prop} {g : α → γ → α} {g' : β → γ' → β} {k : γ → κ} {k' : γ' → κ}
    {P : γ → Prop} (hg : ∀ a b x y, R a b → P x → k' y = k x → R (g a x) (g' b y)) :
    ∀ (l : List γ) (l' : List γ'), l'.map k' = l.map k → (∀ x ∈ l, P x) → ∀ a b, R a b →
      R (l.foldl g a) (l'.foldl g' b)
  | [], [], _, _, _, _, h => h
  | x :: l, y :: l', hm, hP, a, b, h => by
    rw [List.map_cons, List.map_cons, List.cons.injEq] at hm
    rw [List.forall_mem_cons] at hP
    exact foldl_rel₂ hg l l' hm.2 hP.2 _ _ (hg a b x y h hP.1 hm.1)

theorem Lay.resolveStar (h : Lay φ ψ S st st') (hop : OrderPreserving ψ S) (mods : List (String × List String))
    {x x' : Star} (hx : x.loc ∈ S) (hxx : (x'.loc, x'.module, x'.flow) = (ψ x.loc, x.module, x.flow)) :
    Lay φ ψ S (resolveStar mods st x) (resolveStar mods st' x') := by
  obtain ⟨e1, e2, e3⟩ : x'.loc = ψ x.loc ∧ x'.module = x.module ∧ x'.flow = x.flow := by
    simpa only [Prod.mk.injEq] using hxx
  unfold Extract.resolveStar starNames
  rw [e2, e3]
  split
  · exact h
  · refine foldl_rel₂ (k := id) (k' := id) (P := fun _ => True) ?_ _ _ rfl (fun _ _ => trivial) st st' h
    intro a b nm nm' hab _ e
    cases (e : nm' = nm)
    exact Lay.ite _ hab (hab.addName hop rfl (b := starBinding x nm) (b' := starBinding x' nm) rfl e1 hx)

theorem Lay.resolveStars (h : Lay φ ψ S st st') (hop : OrderPreserving ψ S) (mods : List (String × List String)) :
    Lay φ ψ S (resolveStars mods st) (resolveStars mods st') := by
  have := foldl_rel₂ (R := Lay φ ψ S) (k := fun x => (ψ x.loc, x.module, x.flow)) (k' := fun x => (x.loc, x.module, x.flow))
    (P := fun x => x.loc ∈ S) (fun a b x y hab hx hxy => hab.resolveStar hop mods hx hxy) st.stars.reverse st'.stars.reverse
    (by rw [List.map_reverse, List.map_reverse, h.1.stars]) (fun x hx => h.2.stars x (List.mem_reverse.mp hx)) st st' h
  exact ⟨{ this.1 with stars := rfl }, ⟨this.2.names, fun _ hs => nomatch hs⟩⟩

end

/-- what layer 2 provides: on a node all of whose nodes satisfy `Q`, the visit method's actions on the re-positioned
    node are the re-positioned actions, and the locations they store are in `S` -/
def CompileComm (φ ψ : Pos → Pos) (S : List Pos) (Q : Ast → Bool) : Prop :=
  ∀ n prog, n.isNode = true → n.all Q = true → compile n = .ok prog →
    compile (n.mapPos φ) = .ok (prog.map (Instr.mapP φ ψ)) ∧ ∀ l ∈ progLocs prog, l ∈ S

/-- LAYER 1: the two runs of the extractor correspond -/
theorem extract_sim {φ ψ : Pos → Pos} {S : List Pos} {Q : Ast → Bool} (hop : OrderPreserving ψ S)
    (lines lines' : List Text.Str) (mods : List (String × List String))
    (hQ : CompileComm φ ψ S Q) (t : Ast) (ht : t.all Q = true) (st : St) (h : extract lines mods t = .ok st) :
    ∃ st', extract lines' mods (t.mapPos φ) = .ok st' ∧ Sim φ ψ st st' ∧ LocsIn S st := by
  refine (extract_lift (stepRel_mapP hop lines lines') (mapPos_isNode φ) (mapPos_size φ) (mapPos_children φ)
    (.of_ok fun n prog hn hq hp => ?_) ⟨?_, ?_⟩ mods (fun _ _ h => h.resolveStars hop mods) t ht).ok h
  · obtain ⟨hc, hlocs⟩ := hQ n prog hn hq hp
    exact ⟨hc, fun i hi l hl => hlocs l (List.mem_flatMap.mpr ⟨i, hi, hl⟩)⟩
  · exact ⟨rfl, rfl, rfl, rfl, rfl, rfl, rfl, rfl, rfl⟩
  · exact ⟨fun f hf n hn => (by cases List.mem_singleton.mp hf; cases hn), fun _ hs => nomatch hs⟩

end SuppModel.Extract
