/-
  Extract family — the hand-written equality tests of trees and actions (`Ast.beq`, `Instr.beq`, `progBeq`) are sound,
  hence what the evaluated conditions `renQ` and `renAQ` say about `compile`.
-/
import SuppModel.Extract.RenameAttr

namespace SuppModel.Extract
open SuppModel.Flow

mutual
theorem Ast.eq_of_beq : ∀ (a b : Ast), a.beq b = true → a = b
  | .node k1 p1 ns1 vs1, b, h => by
    cases b with
    | node k2 p2 ns2 vs2 =>
      simp only [Ast.beq, Bool.and_eq_true, beq_iff_eq] at h
      rw [h.1.1.1, h.1.1.2, h.1.2, asts_eq_of_beq vs1 vs2 h.2]
    | _ => simp [Ast.beq] at h
  | .list a, b, h => by
    cases b with
    | list b => rw [asts_eq_of_beq a b (by simpa only [Ast.beq] using h)]
    | _ => simp [Ast.beq] at h
  | .str a, b, h => by cases b <;> simp [Ast.beq] at h; rw [h]
  | .int a, b, h => by cases b <;> simp [Ast.beq] at h; rw [h]
  | .none, b, h => by cases b <;> simp [Ast.beq] at h; rfl
theorem asts_eq_of_beq : ∀ (a b : List Ast), astsBeq a b = true → a = b
  | [], b, h => by cases b <;> simp [astsBeq] at h; rfl
  | x :: xs, b, h => by
    cases b with
    | nil => simp [astsBeq] at h
    | cons y ys =>
      simp only [astsBeq, Bool.and_eq_true] at h
      rw [Ast.eq_of_beq x y h.1, asts_eq_of_beq xs ys h.2]
end

theorem Instr.eq_of_beq {i j : Instr} (h : i.beq j = true) : i = j := by
  unfold Instr.beq at h
  -- one goal per line of the definition: the 17 pairs of like actions, and all other pairs at once
  split at h
  · rw [Ast.eq_of_beq _ _ h]
  all_goals simp only [Bool.and_eq_true, beq_iff_eq, decide_eq_true_eq, Bool.false_eq_true] at h
  · rw [asts_eq_of_beq _ _ h.1.1, h.1.2, h.2]
  · rw [h]
  · rw [h]
  · rw [h.1, h.2]
  · rfl
  · rw [h.1, h.2]
  · rw [h.1, h.2]
  · rw [h.1, h.2]
  · rw [h.1.1, h.1.2, h.2]
  · rw [h]
  · rw [h]
  · rw [h]
  · rfl
  · rw [h]
  · rw [h.1.1, h.1.2, h.2]
  · rw [h.1.1.1.1, h.1.1.1.2, h.1.1.2, h.1.2, asts_eq_of_beq _ _ h.2]

theorem prog_eq_of_beq : ∀ (a b : Prog), progBeq a b = true → a = b
  | [], b, h => by cases b <;> simp [progBeq] at h; rfl
  | x :: xs, b, h => by
    cases b with
    | nil => simp [progBeq] at h
    | cons y ys =>
      simp only [progBeq, Bool.and_eq_true] at h
      rw [Instr.eq_of_beq h.1, prog_eq_of_beq xs ys h.2]

/-- the test `renQ` and `renAQ` make of two results of `compile` -/
theorem map_of_progBeq {c c' : M Prog} {F : Instr → Instr}
    (h : (match c, c' with
      | .ok prog, .ok prog' => progBeq prog' (prog.map F)
      | .error e, .error e' => e == e'
      | _, _ => false) = true) : c' = c.map (List.map F) := by
  split at h
  · rw [prog_eq_of_beq _ _ h]; rfl
  · rw [beq_iff_eq.mp h]; rfl
  · cases h

theorem renQ_spec {p : Pos} {s : String} {n : Ast} (h : renQ p s n = true) :
    compile (n.rename p s) = (compile n).map (List.map (Instr.ren p s)) := map_of_progBeq h

theorem renAQ_spec {p : Pos} {z : Nat} {s : String} {n : Ast} (h : renAQ p z s n = true) :
    compile (n.renameAttr p z s) = (compile n).map (List.map (Instr.renA p z s)) := map_of_progBeq h

end SuppModel.Extract
