/-
  Extract family — totality: on a well-shaped tree no attribute access of the visitor fails and the
  fuel `extract` supplies (the size of the tree) is never exhausted.
-/
import SuppModel.Extract.LemmasCompile

namespace SuppModel.Extract
open SuppModel.Flow

theorem Ast.size_pos (n : Ast) : 0 < n.size := by
  cases n <;> simp only [Ast.size] <;> omega

theorem compile_ok_of_shape {n : Ast} (h : shapeHere n = true) : ∃ prog, compile n = .ok prog := by
  unfold shapeHere at h
  simp only [Bool.and_eq_true] at h
  cases hc : compile n with
  | ok prog => exact ⟨prog, rfl⟩
  | error e => rw [hc] at h; simp at h

theorem visit_total (lines : List Text.Str) :
    ∀ fuel n, n.size ≤ fuel → n.isNode = true → n.all shapeHere = true →
      ∀ st, ∃ st', visit lines fuel n st = .ok st' := by
  intro fuel
  induction fuel with
  | zero => intro n hs; have := n.size_pos; omega
  | succ fuel ih =>
    intro n hs hn hall st
    obtain ⟨prog, hp⟩ := compile_ok_of_shape (all_here hn hall)
    simp only [visit, step, hn, if_true, hp, bind, Except.bind]
    apply exec_ok
    intro c hc st
    have hsub := compile_kids_sub hp c hc
    exact ih c (by have := hsub.inside.size; omega) hsub.node (hsub.inside.all _ hall) st

theorem extract_total' (lines : List Text.Str) (mods : List (String × List String)) (t : Ast)
    (h : wellShaped t = true) : ∃ st, extract lines mods t = .ok st := by
  simp only [wellShaped, Bool.and_eq_true] at h
  obtain ⟨⟨hn, _⟩, hall⟩ := h
  have : ∃ st', exec lines (visit lines t.size) (generic t) [] St.init = .ok st' := by
    apply exec_ok
    intro c hc st
    rw [progKids_generic] at hc
    have hsub := children_sub c hc
    exact visit_total lines t.size c (by have := hsub.inside.size; omega) hsub.node (hsub.inside.all _ hall) st
  obtain ⟨st', hst⟩ := this
  exact ⟨resolveStars mods st', by simp [extract, hn, hst, bind, Except.bind, pure, Except.pure]⟩

end SuppModel.Extract
