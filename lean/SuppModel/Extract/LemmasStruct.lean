/-
  Extract family — the structural skeleton of the extractor's state (per flow: scope and predecessors;
  per scope: kind, parent, final flow) and the conditions on it that make up `Graph.wf`; how each primitive
  action changes the skeleton and keeps the conditions.  Pure list reasoning, no `St` here.
-/
import SuppModel.Extract.LemmasWf

namespace SuppModel.Extract
open SuppModel.Flow

abbrev FSk := List (Nat × List Parent)
abbrev SSk := List (ScopeKind × Option Nat × Nat)

/-- flow `v` exists and belongs to scope `S` -/
def FIn (fs : FSk) (v S : Nat) : Prop := ∃ x, fs[v]? = some x ∧ x.1 = S

def PIn (fs : FSk) (S : Nat) : Parent → Prop
  | .flow q => FIn fs q S
  | .loop _ t => FIn fs t S

def scopeOf (fs : FSk) (v : Nat) : Nat :=
  match fs[v]? with
  | some x => x.1
  | none => 0

structure Struct (fs : FSk) (ss : SSk) (cur : Nat) : Prop where
  parents : ∀ (i : Nat) (x : Nat × List Parent), fs[i]? = some x → ∀ p ∈ x.2, PIn fs x.1 p
  fscope : ∀ (i : Nat) (x : Nat × List Parent), fs[i]? = some x → x.1 < ss.length
  final : ∀ (i : Nat) (s : ScopeKind × Option Nat × Nat), ss[i]? = some s → s.1 ≠ .builtin → FIn fs s.2.2 i
  kindMod : ∀ (i : Nat) (s : ScopeKind × Option Nat × Nat), ss[i]? = some s → (s.1 = .module ↔ i = 1)
  parent : ∀ (i : Nat) (s : ScopeKind × Option Nat × Nat), ss[i]? = some s → s.2.1 = none ∨ ∃ p, s.2.1 = some p ∧ p < i
  two : 2 ≤ ss.length
  cur : cur < fs.length
  fwd : ∀ (i : Nat) (x : Nat × List Parent), fs[i]? = some x → ∀ q, Parent.flow q ∈ x.2 → q < i
  hasParent : ∀ (i : Nat) (s : ScopeKind × Option Nat × Nat), ss[i]? = some s → s.1 ≠ .builtin → s.2.1 ≠ none

/-- flows are only added, and keep their scope -/
def MonoF (fs fs' : FSk) : Prop :=
  ∀ (i : Nat) (x : Nat × List Parent), fs[i]? = some x → FIn fs' i x.1

theorem MonoF.refl (fs : FSk) : MonoF fs fs := fun _ x h => ⟨x, h, rfl⟩

theorem FIn.mono {fs fs' : FSk} (h : MonoF fs fs') {v S : Nat} (hv : FIn fs v S) : FIn fs' v S := by
  obtain ⟨x, hx, rfl⟩ := hv
  exact h v x hx

theorem MonoF.trans {a b c : FSk} (h1 : MonoF a b) (h2 : MonoF b c) : MonoF a c :=
  fun i x hx => FIn.mono h2 (h1 i x hx)

theorem PIn.mono {fs fs' : FSk} (h : MonoF fs fs') {S : Nat} {p : Parent} (hp : PIn fs S p) : PIn fs' S p := by
  cases p <;> exact FIn.mono h hp

theorem FIn.lt {fs : FSk} {v S : Nat} (h : FIn fs v S) : v < fs.length := by
  obtain ⟨x, hx, _⟩ := h
  exact (List.getElem?_eq_some_iff.mp hx).1

theorem FIn.scopeOf {fs : FSk} {v S : Nat} (h : FIn fs v S) : scopeOf fs v = S := by
  obtain ⟨x, hx, e⟩ := h
  simp [Extract.scopeOf, hx, e]

theorem fin_of_lt {fs : FSk} {v : Nat} (h : v < fs.length) : FIn fs v (scopeOf fs v) := by
  have : fs[v]? = some fs[v] := List.getElem?_eq_getElem h
  exact ⟨fs[v], this, by simp [scopeOf, this]⟩

theorem scopeOf_mono {fs fs' : FSk} (h : MonoF fs fs') {v : Nat} (hv : v < fs.length) : scopeOf fs' v = scopeOf fs v :=
  (FIn.mono h (fin_of_lt hv)).scopeOf

theorem monoF_append (fs : FSk) (x : Nat × List Parent) : MonoF fs (fs ++ [x]) := by
  intro i y hy
  have hi := (List.getElem?_eq_some_iff.mp hy).1
  exact ⟨y, by rw [List.getElem?_append_left hi]; exact hy, rfl⟩

theorem monoF_modify (fs : FSk) (i : Nat) (g : Nat × List Parent → Nat × List Parent) (hg : ∀ x, (g x).1 = x.1) :
    MonoF fs (modifyAt fs i g) := by
  intro j y hy
  rw [FIn, getElem?_modifyAt]
  split
  · exact ⟨g y, by simp [hy], hg y⟩
  · exact ⟨y, hy, rfl⟩

theorem Struct.setCur {fs ss c} (h : Struct fs ss c) {v : Nat} (hv : v < fs.length) : Struct fs ss v :=
  { h with cur := hv }

theorem Struct.curScope_lt {fs ss c} (h : Struct fs ss c) : scopeOf fs c < ss.length := by
  obtain ⟨x, hx, e⟩ := fin_of_lt h.cur
  exact e ▸ h.fscope c x hx

theorem fin_newFlow (fs : FSk) (S : Nat) (ps : List Parent) : FIn (fs ++ [(S, ps)]) fs.length S :=
  ⟨(S, ps), by simp, rfl⟩

/-- `top.add_flow(Flow(hint, S, parents))` -/
theorem Struct.newFlow {fs ss c} (h : Struct fs ss c) {S : Nat} {ps : List Parent} (hS : S < ss.length)
    (hps : ∀ p ∈ ps, PIn fs S p) : Struct (fs ++ [(S, ps)]) ss c :=
  have hm := monoF_append fs (S, ps)
  { h with
    parents := forall_idx_append (fun i x hx p hp => PIn.mono hm (h.parents i x hx p hp)) fun p hp => PIn.mono hm (hps p hp)
    fscope := forall_idx_append h.fscope hS
    final := fun i s hs hk => FIn.mono hm (h.final i s hs hk)
    cur := List.length_append ▸ Nat.lt_add_right 1 h.cur
    fwd := forall_idx_append h.fwd fun q hq => (hps _ hq : FIn fs q S).lt }

/-- `holder.loop(target)` -/
theorem Struct.addLoop {fs ss c} (h : Struct fs ss c) {hd t : Nat} (ht : FIn fs t (scopeOf fs hd)) :
    Struct (modifyAt fs hd (fun x => (x.1, x.2 ++ [Parent.loop hd t]))) ss c :=
  have hm := monoF_modify fs hd (fun x => (x.1, x.2 ++ [Parent.loop hd t])) (fun _ => rfl)
  { h with
    parents := forall_idx_modify (fun i x hx p hp => PIn.mono hm (h.parents i x hx p hp)) fun y hy hP =>
      forall_mem_append_singleton hP (FIn.mono hm (FIn.scopeOf ⟨y, hy, rfl⟩ ▸ ht))
    fscope := forall_idx_modify h.fscope fun _ _ h => h
    final := fun i s hs hk => FIn.mono hm (h.final i s hs hk)
    cur := length_modifyAt fs .. ▸ h.cur
    fwd := forall_idx_modify h.fwd fun y _ hP q hq => hP q ((List.mem_append.mp hq).resolve_right (by simp)) }

/-- `self.flow.scope.flow = self.flow` -/
theorem Struct.setFinal {fs ss c} (h : Struct fs ss c) :
    Struct fs (modifyAt ss (scopeOf fs c) (fun s => (s.1, s.2.1, c))) c :=
  { h with
    fscope := length_modifyAt ss .. ▸ h.fscope
    final := forall_idx_modify h.final fun _ _ _ _ => fin_of_lt h.cur
    kindMod := forall_idx_modify h.kindMod fun _ _ h => h
    parent := forall_idx_modify h.parent fun _ _ h => h
    two := length_modifyAt ss .. ▸ h.two
    hasParent := forall_idx_modify h.hasParent fun _ _ h => h }

/-- `FuncScope(...)` / `ClassScope(...)` with parent `self.flow.scope`, and its flow -/
theorem Struct.newScope {fs ss c} (h : Struct fs ss c) {k : ScopeKind} (hk : k = .func ∨ k = .cls) :
    Struct (fs ++ [(ss.length, [])]) (ss ++ [(k, some (scopeOf fs c), fs.length)]) c :=
  have hm := monoF_append fs (ss.length, [])
  { parents := forall_idx_append (fun i x hx p hp => PIn.mono hm (h.parents i x hx p hp)) (List.forall_mem_nil _)
    fscope := forall_idx_append
      (fun i x hx => List.length_append ▸ Nat.lt_add_right 1 (h.fscope i x hx)) (by simp)
    final := forall_idx_append (fun i s hs hkb => FIn.mono hm (h.final i s hs hkb)) fun _ => fin_newFlow fs ss.length []
    kindMod := forall_idx_append h.kindMod
      (iff_of_false (by rcases hk with rfl | rfl <;> nofun) (Nat.ne_of_gt h.two))
    parent := forall_idx_append h.parent (Or.inr ⟨_, rfl, h.curScope_lt⟩)
    two := List.length_append ▸ Nat.le_add_right_of_le h.two
    cur := List.length_append ▸ Nat.lt_add_right 1 h.cur
    fwd := forall_idx_append h.fwd nofun
    hasParent := forall_idx_append h.hasParent fun _ => nofun }

/-- scope bookkeeping that touches neither kind, parent nor final flow -/
theorem Struct.scopesSame {fs ss ss' c} (h : Struct fs ss c) (hs : ss' = ss) : Struct fs ss' c := hs ▸ h

theorem forall_idx_nil {α} {P : Nat → α → Prop} : ∀ i y, ([] : List α)[i]? = some y → P i y := nofun

theorem struct_init : Struct [(1, [])] [(.builtin, none, 0), (.module, some 0, 0)] 0 where
  parents := forall_idx_cons (List.forall_mem_nil _) forall_idx_nil
  fscope := forall_idx_cons (by decide) forall_idx_nil
  final := forall_idx_cons (absurd rfl) (forall_idx_cons (fun _ => ⟨(1, []), rfl, rfl⟩) forall_idx_nil)
  kindMod := forall_idx_cons (by simp) (forall_idx_cons (by simp) forall_idx_nil)
  parent := forall_idx_cons (Or.inl rfl) (forall_idx_cons (Or.inr ⟨0, rfl, Nat.zero_lt_one⟩) forall_idx_nil)
  two := Nat.le_refl 2
  cur := Nat.zero_lt_one
  fwd := forall_idx_cons nofun forall_idx_nil
  hasParent := forall_idx_cons (absurd rfl) (forall_idx_cons (fun _ => nofun) forall_idx_nil)

end SuppModel.Extract
