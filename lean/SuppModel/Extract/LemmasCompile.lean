/-
  Extract family — per visit method: which nodes it visits, as the child nodes held by the fields it reads
  (`fieldKids`); hence all of them lie strictly inside the visited node (`compile_kids_sub`).
-/
import SuppModel.Extract.LemmasKids

namespace SuppModel.Extract
open SuppModel.Flow

theorem assignBind_kids (eend : Pos) (t : Target) : progKids (assignBind eend t) = [] := by
  cases t <;> rfl

theorem forBind_kids (bl : Pos) (t : Target) : progKids (forBind bl t) = [] := by
  cases t <;> rfl

theorem withBind_kids (eend : Pos) (t : Target) : progKids (withBind eend t) = [] := by
  cases t <;> rfl

theorem annBind_kids {target hv eend prog} (h : annBind target hv eend = .ok prog) : progKids prog = [] := by
  unfold annBind at h
  split at h
  · cases h; rfl
  split at h
  · cases h; rfl
  split at h
  · simp only [bind_ok_iff, pure_ok_iff] at h
    obtain ⟨id, _, p, _, rfl⟩ := h
    rfl
  · cases h; rfl

theorem importAlias_kids {loc start a e prog} (h : importAlias loc start a e = .ok prog) : progKids prog = [] := by
  simp only [importAlias, bind_ok_iff] at h
  obtain ⟨asname, _, aname, _, h⟩ := h
  split at h <;> cases h <;> rfl

theorem importAliases_kids {loc start l es prog} (h : importAliases loc start l es = .ok prog) :
    progKids prog = [] := by
  induction l generalizing prog es with
  | nil => cases h; rfl
  | cons a r ih =>
    simp only [importAliases, bind_ok_iff, pure_ok_iff] at h
    obtain ⟨this, ht, rest, hr, rfl⟩ := h
    rw [progKids_append, importAlias_kids ht, ih hr]; rfl

theorem importFromAlias_kids {loc start mod a e prog} (h : importFromAlias loc start mod a e = .ok prog) :
    progKids prog = [] := by
  simp only [importFromAlias, bind_ok_iff] at h
  obtain ⟨asname, _, aname, _, h⟩ := h
  split at h <;> cases h <;> rfl

theorem importFromAliases_kids {loc start mod l es prog} (h : importFromAliases loc start mod l es = .ok prog) :
    progKids prog = [] := by
  induction l generalizing prog es with
  | nil => cases h; rfl
  | cons a r ih =>
    simp only [importFromAliases, bind_ok_iff, pure_ok_iff] at h
    obtain ⟨this, ht, rest, hr, rfl⟩ := h
    rw [progKids_append, importFromAlias_kids ht, ih hr]; rfl

theorem handlerBind_kids {h name hbody fh prog} (hb : handlerBind h name hbody fh = .ok prog) : progKids prog = [] := by
  unfold handlerBind at hb
  split at hb
  · simp only [bind_ok_iff, pure_ok_iff] at hb
    obtain ⟨_, _, _, _, rfl⟩ := hb
    rfl
  · cases hb; rfl

theorem compBinds_kids {compPos i ts prog} (h : compBinds compPos i ts = .ok prog) : progKids prog = [] := by
  induction ts generalizing prog with
  | nil => cases h; rfl
  | cons t ts ih =>
    cases t with
    | name p id =>
      simp only [compBinds, bind_ok_iff, pure_ok_iff] at h
      obtain ⟨loc, _, rest, hr, rfl⟩ := h
      rw [progKids_append, ih hr]; rfl
    | attr p =>
      simp only [compBinds, bind_ok_iff, pure_ok_iff] at h
      obtain ⟨rest, hr, rfl⟩ := h
      rw [progKids_cons, ih hr]; rfl
    | skip => exact ih h

theorem withItem_kids {it prog} (h : withItem it = .ok prog) : progKids prog = [] := by
  simp only [withItem, bind_ok_iff] at h
  obtain ⟨ov, _, h⟩ := h
  split at h
  · simp only [bind_ok_iff, pure_ok_iff] at h
    obtain ⟨_, _, eend, _, _, _, rfl⟩ := h
    exact progKids_flatMap_nil _ _ (withBind_kids eend)
  · cases h; rfl

theorem withItems_kids {l prog} (h : withItems l = .ok prog) : progKids prog = [] := by
  induction l generalizing prog with
  | nil => cases h; rfl
  | cons it r ih =>
    simp only [withItems, bind_ok_iff, pure_ok_iff] at h
    obtain ⟨this, ht, rest, hr, rfl⟩ := h
    rw [progKids_append, withItem_kids ht, ih hr]; rfl

theorem compileAssign_kids {n prog} (h : compileAssign n = .ok prog) : progKids prog = n.children := by
  simp only [compileAssign, bind_ok_iff, pure_ok_iff] at h
  obtain ⟨value, h1, eend, h2, targets, h3, ts, h4, rfl⟩ := h
  rw [progKids_append, progKids_flatMap_nil _ _ (assignBind_kids eend), progKids_generic]; rfl

theorem compileAnnAssign_kids {n prog} (h : compileAnnAssign n = .ok prog) : progKids prog = n.children := by
  simp only [compileAnnAssign, bind_ok_iff, pure_ok_iff] at h
  obtain ⟨value, h1, eend, h2, target, h3, bind, h4, rfl⟩ := h
  rw [progKids_append, annBind_kids h4, progKids_generic]; rfl

theorem compileIf_kids {n prog} (h : compileIf n = .ok prog) :
    progKids prog = fieldKids n "test" ++ fieldKids n "body" ++ fieldKids n "orelse" := by
  simp only [compileIf, bind_ok_iff, pure_ok_iff] at h
  obtain ⟨test, h1, body, h2, orelse, h3, rfl⟩ := h
  simp [Instr.kids, getNode_kids h1, getNodeList_kids h2, getNodeList_kids h3]

theorem compileFor_kids {n prog} (h : compileFor n = .ok prog) :
    progKids prog = fieldKids n "iter" ++ fieldKids n "target" ++ fieldKids n "body" ++ fieldKids n "orelse" := by
  simp only [compileFor, bind_ok_iff, pure_ok_iff] at h
  obtain ⟨iter, h1, body, h2, bl, h3, target, h4, ts, h5, orelse, h6, rfl⟩ := h
  simp [Instr.kids, progKids_flatMap_nil _ _ (forBind_kids bl), getNode_kids h1, getNodeList_kids h2, getNode_kids h4,
    getNodeList_kids h6]

theorem compileWhile_kids {n prog} (h : compileWhile n = .ok prog) :
    progKids prog = fieldKids n "test" ++ fieldKids n "body" ++ fieldKids n "orelse" := by
  simp only [compileWhile, bind_ok_iff, pure_ok_iff] at h
  obtain ⟨test, h1, body, h2, orelse, h3, rfl⟩ := h
  simp [Instr.kids, getNode_kids h1, getNodeList_kids h2, getNodeList_kids h3]

theorem compileImport_kids {n prog} (h : compileImport n = .ok prog) : progKids prog = [] := by
  simp only [compileImport, bind_ok_iff] at h
  obtain ⟨loc, _, start, _, names, _, ends, _, h⟩ := h
  exact importAliases_kids h

theorem compileImportFrom_kids {n prog} (h : compileImportFrom n = .ok prog) : progKids prog = [] := by
  simp only [compileImportFrom, bind_ok_iff] at h
  obtain ⟨loc, _, start, _, names, _, ends, _, h⟩ := h
  split at h
  · cases h; rfl
  · simp only [bind_ok_iff] at h
    obtain ⟨_, _, _, _, h⟩ := h
    exact importFromAliases_kids h

/-- what `visit_TryExcept` visits of one handler -/
def handlerKids (h : Ast) : List Ast := fieldKids h "type" ++ fieldKids h "body"

theorem compileHandler_kids {h : Ast} {fh res : Nat} {prog} (hc : compileHandler h fh res = .ok prog) :
    progKids prog = handlerKids h ∧ fieldKids h "name" = [] := by
  simp only [compileHandler, bind_ok_iff, pure_ok_iff] at hc
  obtain ⟨name, h1, hbody, h2, bind, h3, ty, h4, rfl⟩ := hc
  refine ⟨?_, getOptStr_kids h1⟩
  simp [Instr.kids, handlerBind_kids h3, handlerKids, getOptNode_kids h4, getNodeList_kids h2]

theorem compileHandlers_kids {hs r res} (hc : compileHandlers hs r = .ok res) :
    progKids res.1 = hs.flatMap handlerKids ∧ ∀ h ∈ hs, fieldKids h "name" = [] := by
  induction hs generalizing r res with
  | nil => cases hc; exact ⟨rfl, nofun⟩
  | cons h hs ih =>
    simp only [compileHandlers, bind_ok_iff, pure_ok_iff] at hc
    obtain ⟨a, ha, b, hb, rfl⟩ := hc
    obtain ⟨h1, h2⟩ := compileHandler_kids ha
    obtain ⟨h3, h4⟩ := ih hb
    exact ⟨by rw [progKids_append, h1, h3, List.flatMap_cons], List.forall_mem_cons.mpr ⟨h2, h4⟩⟩

theorem finalProg_kids {n k prog} (h : finalProg n k = .ok prog) : progKids prog = fieldKids n "finalbody" := by
  unfold finalProg at h
  split at h
  · simp only [bind_ok_iff, pure_ok_iff] at h
    obtain ⟨fb, h6, rfl⟩ := h
    simp [Instr.kids, getNodeList_kids h6]
  · next hnone => cases h; simp only [fieldKids, hnone]; rfl

theorem compileTry_kids {n prog} (h : compileTry n = .ok prog) :
    (progKids prog = fieldKids n "body" ++ (fieldKids n "handlers").flatMap handlerKids ++ fieldKids n "orelse" ++
      fieldKids n "finalbody") ∧ ∀ h ∈ fieldKids n "handlers", fieldKids h "name" = [] := by
  simp only [compileTry, bind_ok_iff, pure_ok_iff] at h
  obtain ⟨body, h1, handlers, h2, hp, h3, orelse, h4, fin, h5, rfl⟩ := h
  obtain ⟨e1, e2⟩ := compileHandlers_kids h3
  rw [getNodeList_kids h2]
  refine ⟨?_, e2⟩
  simp [Instr.kids, e1, finalProg_kids h5, getNodeList_kids h1, getNodeList_kids h4]

def annKids (l : List Ast) : List Ast := l.flatMap (fieldKids · "annotation")

theorem annKids_append (a b : List Ast) : annKids (a ++ b) = annKids a ++ annKids b := List.flatMap_append

theorem annotationsOf_eq {l r} (h : annotationsOf l = .ok r) : r = annKids l := by
  induction l generalizing r with
  | nil => cases h; rfl
  | cons a l ih =>
    simp only [annotationsOf, bind_ok_iff, pure_ok_iff] at h
    obtain ⟨ann, h1, rest, h2, rfl⟩ := h
    rw [annKids, List.flatMap_cons, getOptNode_kids h1, ih h2]; rfl

theorem optAnnotation_eq (a : Option Ast) {r} (h : optAnnotation a = .ok r) : r = annKids a.toList := by
  cases a with
  | none => cases h; rfl
  | some x =>
    simp only [optAnnotation, bind_ok_iff, pure_ok_iff] at h
    obtain ⟨ann, h1, rfl⟩ := h
    simp [annKids, getOptNode_kids h1]

theorem viewArguments_kids {args : Ast} {v : ArgsView} (h : viewArguments args = .ok v) :
    v.defaults = fieldKids args "defaults" ∧ v.kwDefaults = fieldKids args "kw_defaults" ∧
    v.positional = fieldKids args "posonlyargs" ++ fieldKids args "args" ∧ v.kwonly = fieldKids args "kwonlyargs" ∧
    v.vararg.toList = fieldKids args "vararg" ∧ v.kwarg.toList = fieldKids args "kwarg" := by
  simp only [viewArguments, bind_ok_iff, pure_ok_iff] at h
  obtain ⟨defaults, h1, kwd, h2, posonly, h3, aa, h4, kwonly, h5, vararg, h6, kwarg, h7, rfl⟩ := h
  simp only [getNodeList_kids h1, getOptNodeList_kids h2, optNodeList_kids h3, getNodeList_kids h4, getNodeList_kids h5,
    getOptNode_kids h6, getOptNode_kids h7, and_self]

/-- the `arg` nodes of an `arguments` node: positional and keyword-only ones, `*args` and `**kwargs` -/
def argNodes (an : Ast) : List Ast := fieldKids an "posonlyargs" ++ fieldKids an "args" ++ fieldKids an "kwonlyargs"
def varNodes (an : Ast) : List Ast := fieldKids an "vararg" ++ fieldKids an "kwarg"

/-- what `visit_FunctionDef` and `visit_Lambda` visit below the `arguments` node: the defaults and the annotations
    (those of `*args` and `**kwargs` apart: only `visit_FunctionDef` visits them; a lambda's arguments have none) -/
def argsKids (an : Ast) : List Ast := fieldKids an "defaults" ++ fieldKids an "kw_defaults" ++ annKids (argNodes an)

theorem compileFunctionDef_kids {n prog} (h : compileFunctionDef n = .ok prog) :
    ∃ an, fieldKids n "args" = [an] ∧ Sub an n ∧ fieldKids n "name" = [] ∧
      progKids prog = fieldKids n "decorator_list" ++ argsKids an ++ annKids (varNodes an) ++ fieldKids n "returns" ++
        fieldKids n "body" := by
  simp only [compileFunctionDef, viewArgs, bind_ok_iff, pure_ok_iff] at h
  obtain ⟨decs, h1, v, ⟨an, h0, hv⟩, a1, ha1, a2, ha2, a3, ha3, a4, ha4, returns, h2, name, h3, p, h4, body, h5,
    location, h6, args, h7, rfl⟩ := h
  refine ⟨an, getNode_kids h0, getNode_sub h0, getStr_kids h3, ?_⟩
  simp [Instr.kids, argsKids, argNodes, varNodes, annKids_append, annotationsOf_eq ha1, annotationsOf_eq ha2, optAnnotation_eq _ ha3,
    optAnnotation_eq _ ha4, viewArguments_kids hv, getNodeList_kids h1, getOptNode_kids h2, getNodeList_kids h5]

theorem compileLambda_kids {n prog} (h : compileLambda n = .ok prog) :
    ∃ an, fieldKids n "args" = [an] ∧ Sub an n ∧ progKids prog = argsKids an ++ fieldKids n "body" := by
  simp only [compileLambda, viewArgs, bind_ok_iff, pure_ok_iff] at h
  obtain ⟨v, ⟨an, h0, hv⟩, a1, ha1, a2, ha2, body, h1, location, h2, p, h3, args, h4, rfl⟩ := h
  refine ⟨an, getNode_kids h0, getNode_sub h0, ?_⟩
  simp [Instr.kids, argsKids, argNodes, annKids_append, annotationsOf_eq ha1, annotationsOf_eq ha2, viewArguments_kids hv, getNode_kids h1]

theorem compileClassDef_kids {n prog} (h : compileClassDef n = .ok prog) :
    fieldKids n "name" = [] ∧ progKids prog =
      fieldKids n "decorator_list" ++ fieldKids n "bases" ++ fieldKids n "keywords" ++ fieldKids n "body" := by
  simp only [compileClassDef, bind_ok_iff, pure_ok_iff] at h
  obtain ⟨decs, h1, bases, h2, keywords, h3, name, h4, p, h5, body, h6, location, h7, rfl⟩ := h
  refine ⟨getStr_kids h4, ?_⟩
  simp [Instr.kids, getNodeList_kids h1, getNodeList_kids h2, optNodeList_kids h3, getNodeList_kids h6]

theorem compileReturn_kids {n prog} (h : compileReturn n = .ok prog) : progKids prog = n.children := by
  cases h; exact progKids_generic n

/-- what `visit_ListComp` visits of one generator -/
def genKids (g : Ast) : List Ast := fieldKids g "iter" ++ fieldKids g "target" ++ fieldKids g "ifs"

theorem ifs_kids (ifs : List Ast) (r : Nat) :
    progKids (ifs.map (fun x => Instr.visitIn [x] r none)) = ifs := by
  induction ifs with
  | nil => rfl
  | cons x xs ih => rw [List.map_cons, progKids_cons, ih]; rfl

theorem compileGenerators_kids {compPos gs i prog} (h : compileGenerators compPos gs i = .ok prog) :
    progKids prog = gs.flatMap genKids := by
  induction gs generalizing i prog with
  | nil => cases h; rfl
  | cons g gs ih =>
    simp only [compileGenerators, bind_ok_iff, pure_ok_iff, get_ok_iff] at h
    obtain ⟨iter, h1, iterL, h2, target, h3, ts, h4, binds, h5, ifs, h6, rest, h7, rfl⟩ := h
    simp [Instr.kids, compBinds_kids h5, ifs_kids, ih h7, genKids, fieldKids_of_field h1, single_kids h2,
      getNode_kids h3, getNodeList_kids h6]

/-- the element of a comprehension: what the field `elt` holds, or else the field `value` (DictComp) -/
theorem eltOf_kids {n elt : Ast} {l : List Ast} (h : eltOf n = .ok elt) (hl : single elt = .ok l) :
    ∃ k, (k = "elt" ∨ k = "value") ∧ (n.field? k).isSome ∧ l = fieldKids n k := by
  unfold eltOf at h
  split at h
  · next hf => cases h; exact ⟨_, .inl rfl, by rw [hf]; rfl, by rw [fieldKids_of_field hf, single_kids hl]⟩
  · have hf := get_ok_iff.mp h
    exact ⟨_, .inr rfl, by rw [hf]; rfl, by rw [fieldKids_of_field hf, single_kids hl]⟩

theorem keyProg_kids {n k prog} (h : keyProg n k = .ok prog) : progKids prog = fieldKids n "key" := by
  unfold keyProg at h
  split at h
  · next key hf =>
    simp only [bind_ok_iff, pure_ok_iff] at h
    obtain ⟨keyL, hk, rfl⟩ := h
    simp [Instr.kids, fieldKids_of_field hf, single_kids hk]
  · next hnone => cases h; simp only [fieldKids, hnone]; rfl

theorem compileComp_kids {n prog} (h : compileComp n = .ok prog) :
    ∃ k, (k = "elt" ∨ k = "value") ∧ (n.field? k).isSome ∧
      progKids prog = (fieldKids n "generators").flatMap genKids ++ fieldKids n k ++ fieldKids n "key" := by
  simp only [compileComp, bind_ok_iff, pure_ok_iff] at h
  obtain ⟨gens, h1, gprog, h2, elt, h3, eltL, h4, kprog, h5, rfl⟩ := h
  obtain ⟨k, hk, hsome, rfl⟩ := eltOf_kids h3 h4
  refine ⟨k, hk, hsome, ?_⟩
  simp [Instr.kids, compileGenerators_kids h2, keyProg_kids h5, getNodeList_kids h1]

theorem compileWith_kids {n prog} (h : compileWith n = .ok prog) : progKids prog = n.children := by
  simp only [compileWith, bind_ok_iff, pure_ok_iff] at h
  obtain ⟨items, h1, binds, h2, rfl⟩ := h
  rw [progKids_append, withItems_kids h2, progKids_generic]; rfl

theorem compileGlobal_kids {n prog} (h : compileGlobal n = .ok prog) : progKids prog = [] := by
  simp only [compileGlobal, bind_ok_iff, pure_ok_iff] at h
  obtain ⟨names, _, rfl⟩ := h
  rfl

theorem compileNonlocal_kids {n prog} (h : compileNonlocal n = .ok prog) : progKids prog = [] := by
  simp only [compileNonlocal, bind_ok_iff, pure_ok_iff] at h
  obtain ⟨names, _, rfl⟩ := h
  rfl

theorem compileName_kids {n prog} (h : compileName n = .ok prog) : progKids prog = [] := by
  simp only [compileName, bind_ok_iff] at h
  obtain ⟨ctx, _, h⟩ := h
  split at h <;> cases h <;> rfl

theorem compileNamedExpr_kids {n prog} (h : compileNamedExpr n = .ok prog) : progKids prog = n.children := by
  simp only [compileNamedExpr, bind_ok_iff, pure_ok_iff] at h
  obtain ⟨value, _, eend, _, target, _, id, _, p, _, rfl⟩ := h
  rw [progKids_append, assignBind_kids, progKids_generic]; rfl

theorem sub_append {a b : List Ast} {n : Ast} (ha : ∀ c ∈ a, Sub c n) (hb : ∀ c ∈ b, Sub c n) : ∀ c ∈ a ++ b, Sub c n :=
  List.forall_mem_append.mpr ⟨ha, hb⟩

/-- reading through helper nodes: what lies inside a node inside `n` lies inside `n` -/
theorem sub_flatMap {l : List Ast} {f : Ast → List Ast} {n : Ast} (hl : ∀ a ∈ l, Sub a n) (hf : ∀ a, ∀ c ∈ f a, Sub c a) :
    ∀ c ∈ l.flatMap f, Sub c n := by
  intro c hc
  obtain ⟨a, ha, hc⟩ := List.mem_flatMap.mp hc
  exact (hf a c hc).trans (hl a ha).inside

theorem annKids_sub {l : List Ast} {n : Ast} (hl : ∀ a ∈ l, Sub a n) : ∀ c ∈ annKids l, Sub c n :=
  sub_flatMap hl fun _ => fieldKids_sub

theorem fieldKids_sub_of_sub {a n : Ast} {k : String} (h : Sub a n) : ∀ c ∈ fieldKids a k, Sub c n :=
  fun c hc => (fieldKids_sub c hc).trans h.inside

theorem argsKids_sub {an n : Ast} (h : Sub an n) : ∀ c ∈ argsKids an, Sub c n :=
  have hf {k} := fieldKids_sub_of_sub (k := k) h
  sub_append (sub_append hf hf) (annKids_sub (sub_append (sub_append hf hf) hf))

/-- what `viewArgs` returns lies inside the node -/
structure ArgsSub (v : ArgsView) (n : Ast) : Prop where
  defaults : ∀ c ∈ v.defaults, Sub c n
  kwDefaults : ∀ c ∈ v.kwDefaults, Sub c n
  positional : ∀ c ∈ v.positional, Sub c n
  kwonly : ∀ c ∈ v.kwonly, Sub c n
  vararg : ∀ c, v.vararg = some c → Sub c n
  kwarg : ∀ c, v.kwarg = some c → Sub c n

theorem viewArguments_sub {args n : Ast} {v : ArgsView} (h : viewArguments args = .ok v)
    (hf : ∀ {k}, ∀ c ∈ fieldKids args k, Sub c n) : ArgsSub v n := by
  obtain ⟨h1, h2, h3, h4, h5, h6⟩ := viewArguments_kids h
  exact ⟨h1 ▸ hf, h2 ▸ hf, h3 ▸ sub_append hf hf, h4 ▸ hf,
    fun c hc => hf c (h5 ▸ Option.mem_toList.mpr hc), fun c hc => hf c (h6 ▸ Option.mem_toList.mpr hc)⟩

theorem viewArgs_sub {n : Ast} {v : ArgsView} (h : viewArgs n = .ok v) : ArgsSub v n := by
  simp only [viewArgs, bind_ok_iff] at h
  obtain ⟨args, h0, h⟩ := h
  exact viewArguments_sub h (fieldKids_sub_of_sub (getNode_sub h0))

theorem compile_kids_sub {n prog} (h : compile n = .ok prog) : ∀ c ∈ progKids prog, Sub c n := by
  have h3 : ∀ {a b c}, ∀ x ∈ fieldKids n a ++ fieldKids n b ++ fieldKids n c, Sub x n :=
    sub_append (sub_append fieldKids_sub fieldKids_sub) fieldKids_sub
  have htry : compileTry n = .ok prog → ∀ c ∈ progKids prog, Sub c n := fun h => by
    rw [(compileTry_kids h).1]
    exact sub_append (sub_append (sub_append fieldKids_sub
      (sub_flatMap fieldKids_sub fun _ => sub_append fieldKids_sub fieldKids_sub)) fieldKids_sub) fieldKids_sub
  have hdef : compileFunctionDef n = .ok prog → ∀ c ∈ progKids prog, Sub c n := fun h => by
    obtain ⟨an, -, hsub, -, e⟩ := compileFunctionDef_kids h
    rw [e]
    exact sub_append (sub_append (sub_append (sub_append fieldKids_sub (argsKids_sub hsub))
      (annKids_sub (sub_append (fieldKids_sub_of_sub hsub) (fieldKids_sub_of_sub hsub)))) fieldKids_sub) fieldKids_sub
  have hcomp : compileComp n = .ok prog → ∀ c ∈ progKids prog, Sub c n := fun h => by
    obtain ⟨k, -, -, e⟩ := compileComp_kids h
    rw [e]
    exact sub_append (sub_append (sub_flatMap fieldKids_sub fun _ =>
      sub_append (sub_append fieldKids_sub fieldKids_sub) fieldKids_sub) fieldKids_sub) fieldKids_sub
  unfold compile at h
  split at h
  · rw [compileAssign_kids h]; exact children_sub
  · rw [compileAnnAssign_kids h]; exact children_sub
  · rw [compileIf_kids h]; exact h3
  · rw [compileFor_kids h]; exact sub_append h3 fieldKids_sub
  · rw [compileFor_kids h]; exact sub_append h3 fieldKids_sub
  · rw [compileWhile_kids h]; exact h3
  · rw [compileImport_kids h]; nofun
  · rw [compileImportFrom_kids h]; nofun
  · exact htry h
  · exact htry h
  · exact hdef h
  · exact hdef h
  · obtain ⟨an, -, hsub, e⟩ := compileLambda_kids h
    rw [e]
    exact sub_append (argsKids_sub hsub) fieldKids_sub
  · rw [(compileClassDef_kids h).2]; exact sub_append h3 fieldKids_sub
  · rw [compileReturn_kids h]; exact children_sub
  · exact hcomp h
  · exact hcomp h
  · exact hcomp h
  · exact hcomp h
  · rw [compileWith_kids h]; exact children_sub
  · rw [compileWith_kids h]; exact children_sub
  · rw [compileGlobal_kids h]; nofun
  · rw [compileNonlocal_kids h]; nofun
  · rw [compileName_kids h]; nofun
  · rw [compileNamedExpr_kids h]; exact children_sub
  · cases h; rw [progKids_generic]; exact children_sub

theorem compile_generic {n : Ast} (h : specialKinds.contains n.kind = false) : compile n = pure (generic n) := by
  have hs : ∀ s ∈ specialKinds, n.kind ≠ s := fun s hs e => by
    rw [e, List.contains_iff_mem.2 hs] at h; cases h
  unfold compile
  -- in a special case the kind is found in `specialKinds` by its place: no string is compared
  split <;> first
    | rfl
    | exact absurd ‹n.kind = _› (hs _ (by repeat constructor))

end SuppModel.Extract
