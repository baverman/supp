/-
  Extract family — two runs of the interpreter side by side.  An action is a pure step into the state in which its
  nodes are visited (`Instr.pre`), the visits, and a pure step out (`Instr.post`) (LemmasKids); a relation between
  states that corresponding actions keep in these two steps (`StepRel`) is therefore kept by `exec`, `visit` and `extract`.
-/
import SuppModel.Extract.LemmasCompile

namespace SuppModel.Extract
open SuppModel.Flow

/-- a result of `r` is matched by an `R`-related result of `r'`; with `strict`, an error of `r` by the same error -/
def Lift {α β} (strict : Bool) (R : α → β → Prop) (r : M α) (r' : M β) : Prop :=
  match r with
  | .ok a => ∃ b, r' = .ok b ∧ R a b
  | .error e => strict = true → r' = .error e

section
variable {α β γ δ : Type} {s : Bool} {R : α → β → Prop} {R' : γ → δ → Prop} {r : M α} {r' : M β}

theorem Lift.ok (h : Lift s R r r') {a : α} (hr : r = .ok a) : ∃ b, r' = .ok b ∧ R a b := by
  subst hr; exact h

theorem Lift.ok_eq {f : α → β} (h : Lift s (fun a b => b = f a) r r') {a : α} (hr : r = .ok a) : r' = .ok (f a) := by
  obtain ⟨_, e, rfl⟩ := h.ok hr; exact e

theorem Lift.of_ok (h : ∀ a, r = .ok a → ∃ b, r' = .ok b ∧ R a b) : Lift false R r r' := by
  cases r with
  | ok a => exact h a rfl
  | error e => exact Bool.noConfusion

theorem Lift.of_map {f : α → β} (h : r' = r.map f) (hf : ∀ a, R a (f a)) : Lift s R r r' := by
  subst h
  cases r with
  | ok a => exact ⟨_, rfl, hf a⟩
  | error e => exact fun _ => rfl

theorem Lift.eq_map {f : α → β} (h : Lift true (fun a b => b = f a) r r') : r' = r.map f := by
  cases r with
  | ok a => obtain ⟨b, e, rfl⟩ := h; exact e
  | error e => exact h rfl

theorem Lift.bind {k : α → M γ} {k' : β → M δ} (h : Lift s R r r')
    (hk : ∀ a b, r = .ok a → R a b → Lift s R' (k a) (k' b)) : Lift s R' (r >>= k) (r' >>= k') := by
  cases r with
  | ok a => obtain ⟨b, rfl, hab⟩ := h; exact hk a b rfl hab
  | error e => intro hs; rw [h hs]; rfl

theorem Lift.map {f : α → γ} {g : β → δ} (h : Lift s R r r') (hfg : ∀ a b, R a b → R' (f a) (g b)) :
    Lift s R' (r.map f) (r'.map g) := by
  cases r with
  | ok a => obtain ⟨b, rfl, hab⟩ := h; exact ⟨_, rfl, hfg a b hab⟩
  | error e => intro hs; rw [h hs]; rfl

end

/-- `R` is kept by the two pure steps of an action `i` with `P i` and of its counterpart `F i`, which visits the
    `T`-images of the same nodes, and leaves the registers equal -/
structure StepRel (lines lines' : List Text.Str) (R : St → St → Prop) (T : Ast → Ast) (F : Instr → Instr)
    (P : Instr → Prop) : Prop where
  visit : ∀ c, F (.visit c) = .visit (T c) ∧ P (.visit c)
  kids : ∀ i, (F i).kids = i.kids.map T
  pre : ∀ {i} env {st st'}, P i → R st st' → R (i.pre lines env st) ((F i).pre lines' env st')
  post : ∀ {i} env {st st' r r'}, P i → R st st' → R r r' →
    ((F i).post env st' r').1 = (i.post env st r).1 ∧ R (i.post env st r).2 ((F i).post env st' r').2

section
variable {lines lines' : List Text.Str} {R : St → St → Prop} {T : Ast → Ast} {F : Instr → Instr} {P : Instr → Prop}
  {s : Bool} {rec rec' : Rec}

theorem visitAll_lift (cs : List Ast) (hrec : ∀ c ∈ cs, ∀ st st', R st st' → Lift s R (rec c st) (rec' (T c) st')) :
    ∀ st st', R st st' → Lift s R (visitAll rec cs st) (visitAll rec' (cs.map T) st') := by
  induction cs with
  | nil => exact fun st st' h => ⟨st', rfl, h⟩
  | cons c cs ih =>
    intro st st' h
    rw [List.forall_mem_cons] at hrec
    exact (hrec.1 st st' h).bind fun a b _ hab => ih hrec.2 a b hab

theorem exec_lift (h : StepRel lines lines' R T F P) (prog : Prog) (hP : ∀ i ∈ prog, P i)
    (hrec : ∀ c ∈ progKids prog, ∀ st st', R st st' → Lift s R (rec c st) (rec' (T c) st')) :
    ∀ env st st', R st st' → Lift s R (exec lines rec prog env st) (exec lines' rec' (prog.map F) env st') := by
  induction prog with
  | nil => exact fun _ st st' hR => ⟨st', rfl, hR⟩
  | cons i is ih =>
    intro env st st' hR
    rw [List.forall_mem_cons] at hP
    rw [progKids_cons] at hrec
    simp only [List.map_cons, exec, execInstr_eq, h.kids]
    refine Lift.bind (R := fun a b => b.1 = a.1 ∧ R a.2 b.2) ?_ ?_
    · exact (visitAll_lift _ (fun c hc => hrec c (List.mem_append_left _ hc)) _ _ (h.pre env hP.1 hR)).map
        fun a b hab => h.post env hP.1 hR hab
    · intro a b _ hab
      rw [hab.1]
      exact ih hP.2 (fun c hc => hrec c (List.mem_append_right _ hc)) a.1 a.2 b.2 hab.2

/-- what `exec_lift` needs of `compile`: related programs on `Q`-trees -/
def CompRel (s : Bool) (T : Ast → Ast) (F : Instr → Instr) (P : Instr → Prop) (Q : Ast → Bool) : Prop :=
  ∀ n, n.isNode = true → n.all Q = true →
    Lift s (fun p p' => p' = p.map F ∧ ∀ i ∈ p, P i) (compile n) (compile (T n))

variable {Q : Ast → Bool}

theorem CompRel.of_ok (h : ∀ n prog, n.isNode = true → n.all Q = true → compile n = .ok prog →
    compile (T n) = .ok (prog.map F) ∧ ∀ i ∈ prog, P i) : CompRel false T F P Q :=
  fun n hn hq => Lift.of_ok fun prog hp => ⟨_, (h n prog hn hq hp).1, rfl, (h n prog hn hq hp).2⟩

theorem visit_lift (h : StepRel lines lines' R T F P) (hnode : ∀ n, (T n).isNode = n.isNode) (hC : CompRel s T F P Q) :
    ∀ fuel n, n.all Q = true → ∀ st st', R st st' →
      Lift s R (visit lines fuel n st) (visit lines' fuel (T n) st') := by
  intro fuel
  induction fuel with
  | zero => exact fun _ _ _ _ _ _ => rfl
  | succ fuel ih =>
    intro n hall st st' hR
    simp only [visit, step, hnode]
    cases hn : n.isNode with
    | false => exact fun _ => rfl
    | true =>
      refine (hC n hn hall).bind ?_
      rintro p _ hp ⟨rfl, hP⟩
      exact exec_lift h p hP (fun c hc => ih c ((compile_kids_sub hp c hc).inside.all _ hall)) [] st st' hR

theorem extract_lift (h : StepRel lines lines' R T F P) (hnode : ∀ n, (T n).isNode = n.isNode)
    (hsize : ∀ n, (T n).size = n.size) (hchildren : ∀ n, (T n).children = n.children.map T) (hC : CompRel s T F P Q)
    (h0 : R St.init St.init) (mods : List (String × List String))
    (hstars : ∀ st st', R st st' → R (resolveStars mods st) (resolveStars mods st'))
    (t : Ast) (ht : t.all Q = true) : Lift s R (extract lines mods t) (extract lines' mods (T t)) := by
  have hgen : generic (T t) = (generic t).map F := by
    simp only [generic, hchildren, List.map_map]
    exact List.map_congr_left fun c _ => ((h.visit c).1).symm
  simp only [extract, hnode, hsize, hgen]
  cases hn : t.isNode with
  | false => exact fun _ => rfl
  | true =>
    refine Lift.bind ?_ fun a b _ hab => ⟨_, rfl, hstars a b hab⟩
    refine exec_lift h _ (fun i hi => ?_) (fun c hc => ?_) [] _ _ h0
    · obtain ⟨c, _, rfl⟩ := List.mem_map.mp hi
      exact (h.visit c).2
    · rw [progKids_generic] at hc
      exact visit_lift h hnode hC t.size c ((children_sub c hc).inside.all _ ht)

end

end SuppModel.Extract
