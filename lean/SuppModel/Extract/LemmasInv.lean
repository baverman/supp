/-
  Extract family — an induction principle over everything the extractor does to its state: a predicate
  kept by each primitive action is kept by `extract` (`extract_preserves`); instances: every `_names`
  list stays sorted by location (`extract_sorted'`); a `.flow` attribute once set stays set.
-/
import SuppModel.Extract.LemmasKids
import SuppModel.Flow.LemmasScoping

namespace SuppModel.Extract
open SuppModel.Flow

/-- `P` is kept by every primitive action on the extractor's state -/
structure Preserved (P : St → Prop) : Prop where
  setCur : ∀ st c, P st → P { st with cur := c }
  newFlow : ∀ st scope parents, P st → P (st.newFlow scope parents).1
  addName : ∀ st f b, P st → P (st.addName f b)
  compName : ∀ st f b, P st → P (st.compName f b)
  addLoop : ∀ st h t, P st → P (st.addLoop h t)
  setFinal : ∀ st, P st → P st.setFinal
  newScope : ∀ st k, P st → P (st.newScope k).1
  globalDecl : ∀ st ns, P st → P (st.globalDecl ns)
  nonlocalDecl : ∀ st ns, P st → P (st.nonlocalDecl ns)
  addReturn : ∀ st, P st → P st.addReturn
  flowAttr : ∀ st x, P st → P { st with flowAttrs := x :: st.flowAttrs }
  attrAssign : ∀ st x, P st → P { st with attrAssigns := x :: st.attrAssigns }
  addImport : ∀ st x, P st → P { st with imports := x :: st.imports }
  addStar : ∀ st x, P st → P { st with stars := x :: st.stars }
  clearStars : ∀ st, P st → P { st with stars := [] }

variable {P : St → Prop}

theorem visitAll_preserves {rec : Rec} (hrec : ∀ {c st st'}, rec c st = .ok st' → P st → P st')
    (cs : List Ast) : ∀ {st st'}, visitAll rec cs st = .ok st' → P st → P st' := by
  induction cs with
  | nil => intro st st' h hp; cases h; exact hp
  | cons c cs ih =>
    intro st st' h hp
    obtain ⟨st1, h1, h2⟩ := (bind_ok_iff _ _ _).mp h
    exact ih h2 (hrec h1 hp)

theorem foldl_addName_preserves (hP : Preserved P) (f : Nat) (args : List Binding) {st : St} (hp : P st) :
    P (args.foldl (fun st a => st.addName f a) st) :=
  List.foldlRecOn args _ hp fun _ hp _ _ => hP.addName _ f _ hp

theorem pre_preserves (hP : Preserved P) (lines : List Text.Str) (i : Instr) (env : Env) {st : St} (hp : P st) :
    P (i.pre lines env st) := by
  cases i with
  | visit c => exact hp
  | saveCur d => exact hp
  | visitIn cs f d => exact hP.setCur _ _ hp
  | setCur s => exact hP.setCur _ _ hp
  | makeFlow d ps => exact hP.newFlow _ _ _ hp
  | setFinal => exact hP.setFinal _ hp
  | loop a b => exact hP.addLoop _ _ _ hp
  | addName f b => exact hP.addName _ _ _ hp
  | compName f b => exact hP.compName _ _ _ hp
  | flowAttr q id f => exact hP.flowAttr _ _ hp
  | attrAssign q => exact hP.attrAssign _ _ hp
  | globalDecl ns => exact hP.globalDecl _ _ hp
  | nonlocalDecl ns => exact hP.nonlocalDecl _ _ hp
  | addReturn => exact hP.addReturn _ hp
  | addImport x => exact hP.addImport _ _ hp
  | addStar a b c => exact hP.addStar _ _ hp
  | scopeBody cls self register args body =>
    refine hP.setCur _ _ ?_
    cases register
    · exact foldl_addName_preserves hP _ args (hP.newScope st _ hp)
    · exact hP.addName _ _ _ (foldl_addName_preserves hP _ args (hP.newScope st _ hp))

theorem post_preserves (hP : Preserved P) (i : Instr) (env : Env) (st : St) {r : St} (hr : P r) : P (i.post env st r).2 := by
  cases i with
  | visitIn cs f d => exact hP.setCur _ _ hr
  | scopeBody cls self register args body => exact hP.setCur _ _ hr
  | _ => exact hr

theorem execInstr_preserves (hP : Preserved P) (lines : List Text.Str) {rec : Rec}
    (hrec : ∀ {c st st'}, rec c st = .ok st' → P st → P st') (i : Instr) :
    ∀ {env st r}, execInstr lines rec i env st = .ok r → P st → P r.2 := by
  intro env st r h hp
  obtain ⟨st1, h1, rfl⟩ := execInstr_ok_iff.mp h
  exact post_preserves hP i env st (visitAll_preserves hrec _ h1 (pre_preserves hP lines i env hp))

theorem exec_preserves (hP : Preserved P) (lines : List Text.Str) {rec : Rec}
    (hrec : ∀ {c st st'}, rec c st = .ok st' → P st → P st') (prog : Prog) :
    ∀ {env st st'}, exec lines rec prog env st = .ok st' → P st → P st' := by
  induction prog with
  | nil => intro env st st' h hp; cases h; exact hp
  | cons i is ih =>
    intro env st st' h hp
    obtain ⟨r, h1, h2⟩ := (bind_ok_iff _ _ _).mp h
    exact ih h2 (execInstr_preserves hP lines hrec i h1 hp)

theorem visit_preserves (hP : Preserved P) (lines : List Text.Str) :
    ∀ fuel {c st st'}, visit lines fuel c st = .ok st' → P st → P st' := by
  intro fuel
  induction fuel with
  | zero => intro c st st' h; cases h
  | succ fuel ih =>
    intro c st st' h hp
    unfold visit step at h
    split at h
    · obtain ⟨prog, _, h2⟩ := (bind_ok_iff _ _ _).mp h
      exact exec_preserves hP lines ih prog h2 hp
    · cases h

/-- star resolution only adds names and clears `_star_imports` -/
theorem resolveStars_keeps (hadd : ∀ st f b, P st → P (st.addName f b)) (hclear : ∀ st, P st → P { st with stars := [] })
    (mods : List (String × List String)) (st : St) (hp : P st) : P (resolveStars mods st) := by
  refine hclear _ (List.foldlRecOn _ _ hp fun st hp s _ => ?_)
  unfold resolveStar
  split
  · exact hp
  · refine List.foldlRecOn _ _ hp fun st hp nm _ => ?_
    split
    · exact hp
    · exact hadd _ _ _ hp

theorem resolveStars_preserves (hP : Preserved P) (mods : List (String × List String)) (st : St) (hp : P st) :
    P (resolveStars mods st) :=
  resolveStars_keeps hP.addName hP.clearStars mods st hp

theorem extract_preserves (hP : Preserved P) (h0 : P St.init) (lines : List Text.Str)
    (mods : List (String × List String)) (t : Ast) (st : St) (h : extract lines mods t = .ok st) : P st := by
  unfold extract at h
  split at h
  · simp only [bind_ok_iff, pure_ok_iff] at h
    obtain ⟨st1, h1, rfl⟩ := h
    exact resolveStars_preserves hP mods st1
      (exec_preserves hP lines (visit_preserves hP lines t.size) _ h1 h0)
  · cases h

theorem St.addName_eq (st : St) (f : Nat) (b : Binding) :
    st.addName f b =
      if st.isGlobalDecl (st.flowScope f) b.name then
        { st with infos := b.info :: st.infos,
                  globalNames := dictSet st.globalNames ⟨st.infos.length, b.name, b.loc, st.flowScope f⟩ }
      else if st.isNonlocalDecl (st.flowScope f) b.name then st.compName f b
      else { st.compName f b with
        scopes := modifyAt st.scopes (st.flowScope f) (fun s => { s with locals := addSet s.locals b.name }) } := rfl

theorem mem_modifyAt {α} {l : List α} {i : Nat} {g : α → α} {x : α} (h : x ∈ modifyAt l i g) :
    x ∈ l ∨ ∃ y ∈ l, x = g y := by
  induction l generalizing i with
  | nil => cases h
  | cons a as ih =>
    cases i with
    | zero =>
      rcases List.mem_cons.mp h with h | h
      · exact Or.inr ⟨a, List.mem_cons_self, h⟩
      · exact Or.inl (List.mem_cons_of_mem _ h)
    | succ i =>
      rcases List.mem_cons.mp h with rfl | h
      · exact Or.inl List.mem_cons_self
      · rcases ih h with h | ⟨y, hy, h⟩
        · exact Or.inl (List.mem_cons_of_mem _ h)
        · exact Or.inr ⟨y, List.mem_cons_of_mem _ hy, h⟩

def AllSorted (st : St) : Prop := ∀ f ∈ st.flows, sortedByLoc f.names = true

theorem allSorted_modifyAt {st : St} (h : AllSorted st) {i : Nat} {g : FlowRec → FlowRec}
    (hg : ∀ fr, sortedByLoc fr.names = true → sortedByLoc (g fr).names = true) :
    ∀ fr ∈ modifyAt st.flows i g, sortedByLoc fr.names = true := by
  intro fr hfr
  rcases mem_modifyAt hfr with hfr | ⟨y, hy, rfl⟩
  · exact h fr hfr
  · exact hg y (h y hy)

theorem allSorted_insert {st : St} (h : AllSorted st) {f : Nat} {r : NameRec} :
    ∀ fr ∈ modifyAt st.flows f (fun fr => { fr with names := insertLoc fr.names r }), sortedByLoc fr.names = true :=
  allSorted_modifyAt h fun _ hs => sortedByLoc_of _ (insertLoc_sorted _ _ (sortedLoc_of _ hs))

theorem allSorted_preserved : Preserved AllSorted where
  setCur := fun _ _ h => h
  newFlow := fun _ _ _ h => List.forall_mem_append.mpr ⟨h, List.forall_mem_singleton.mpr rfl⟩
  addName := by
    intro st f b h
    rw [St.addName_eq]
    cases st.isGlobalDecl (st.flowScope f) b.name
    · cases st.isNonlocalDecl (st.flowScope f) b.name <;> exact allSorted_insert h
    · exact h
  compName := fun _ _ _ h => allSorted_insert h
  addLoop := fun _ _ _ h => allSorted_modifyAt h fun _ hs => hs
  setFinal := fun _ h => h
  newScope := fun _ _ h => List.forall_mem_append.mpr ⟨h, List.forall_mem_singleton.mpr rfl⟩
  globalDecl := fun _ _ h => h
  nonlocalDecl := fun _ _ h => h
  addReturn := fun _ h => h
  flowAttr := fun _ _ h => h
  attrAssign := fun _ _ h => h
  addImport := fun _ _ h => h
  addStar := fun _ _ h => h
  clearStars := fun _ h => h

theorem extract_sorted' (lines : List Text.Str) (mods : List (String × List String)) (t : Ast) (st : St)
    (h : extract lines mods t = .ok st) : AllSorted st :=
  extract_preserves allSorted_preserved (List.forall_mem_singleton.mpr rfl) lines mods t st h

theorem hasFlow_preserved (k : Option Pos × String) : Preserved (fun st => st.hasFlow k) where
  setCur := fun _ _ h => h
  newFlow := fun _ _ _ h => h
  addName := by
    intro st f b h
    rw [St.addName_eq]
    cases st.isGlobalDecl (st.flowScope f) b.name
    · cases st.isNonlocalDecl (st.flowScope f) b.name <;> exact h
    · exact h
  compName := fun _ _ _ h => h
  addLoop := fun _ _ _ h => h
  setFinal := fun _ h => h
  newScope := fun _ _ h => h
  globalDecl := fun _ _ h => h
  nonlocalDecl := fun _ _ h => h
  addReturn := fun _ h => h
  flowAttr := by
    intro st x ⟨f, hf⟩
    exact ⟨f, List.mem_cons_of_mem _ hf⟩
  attrAssign := fun _ _ h => h
  addImport := fun _ _ h => h
  addStar := fun _ _ h => h
  clearStars := fun _ h => h

end SuppModel.Extract
