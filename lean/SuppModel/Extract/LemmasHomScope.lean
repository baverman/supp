/-
  Extract family — the visit methods of `try`, of the statements and expressions that open a scope (def, lambda, class,
  comprehensions) and of `Name` commute with a node homomorphism.
-/
import SuppModel.Extract.LemmasHom

namespace SuppModel.Extract
open SuppModel.Flow

section
variable {T : Ast → Ast} {φ ψ : Pos → Pos}

theorem compBinds_name {cp : Option Pos} {i : Nat} {q : Pos} {id : String} {ts : List Target} {binds : Prog}
    (hb : compBinds cp i ts = .ok binds) (hm : Target.name q id ∈ ts) :
    ∃ loc, Instr.compName (i + 1) (assigned id loc q) ∈ binds := by
  induction ts generalizing binds with
  | nil => cases hm
  | cons t ts ih =>
    cases t with
    | name p' id' =>
      simp only [compBinds, bind_ok_iff, pure_ok_iff] at hb
      obtain ⟨loc, _, rest, hr, rfl⟩ := hb
      cases hm with
      | head => exact ⟨loc, List.mem_cons_of_mem _ List.mem_cons_self⟩
      | tail _ hm => exact (ih hr hm).imp fun _ hl => List.mem_cons_of_mem _ (List.mem_cons_of_mem _ hl)
    | attr p' =>
      simp only [compBinds, bind_ok_iff, pure_ok_iff] at hb
      obtain ⟨rest, hr, rfl⟩ := hb
      cases hm with
      | tail _ hm => exact (ih hr hm).imp fun _ hl => List.mem_cons_of_mem _ hl
    | skip =>
      cases hm with
      | tail _ hm => exact ih hb hm

theorem compBinds_mapG {cp : Option Pos} {i : Nat} {ts : List Target} {prog : Prog} (h : compBinds cp i ts = .ok prog) :
    compBinds (cp.map ψ) i (ts.map (Target.mapP φ)) = .ok (prog.map (Instr.mapG T φ ψ)) := by
  induction ts generalizing prog with
  | nil => cases h; rfl
  | cons t ts ih =>
    cases t with
    | name p id =>
      simp only [compBinds, bind_ok_iff, pure_ok_iff] at h
      obtain ⟨loc, h1, rest, h2, rfl⟩ := h
      cases cp with
      | none => cases h1
      | some l =>
        cases h1
        simp only [List.map_cons, Target.mapP, compBinds, ih h2, M.ok_bind, M.pure_eq]
        rfl
    | attr p =>
      simp only [compBinds, bind_ok_iff, pure_ok_iff] at h
      obtain ⟨rest, h2, rfl⟩ := h
      simp only [List.map_cons, Target.mapP, compBinds, ih h2, M.ok_bind, M.pure_eq, Instr.mapG]
    | skip => exact ih h

variable {good : Ast → String → Bool} {okPos : Pos → Prop} {Q : Ast → Prop} (H : NodeHom T φ ψ good okPos Q)
  {n : Ast} {prog : Prog}
include H

theorem handlerBind_hom {h : Ast} {name : Option String} {hbody : List Ast} {fh : Nat}
    (hq : ∀ b ∈ hbody, Q b) (hb : handlerBind h name hbody fh = .ok prog) :
    handlerBind (T h) name (hbody.map T) fh = .ok (prog.map (Instr.mapG T φ ψ)) := by
  cases name with
  | none => cases hb; rfl
  | some s =>
    simp only [handlerBind, bind_ok_iff, pure_ok_iff] at hb
    obtain ⟨bl, h1, p, h2, rfl⟩ := hb
    simp only [handlerBind, bodyLoc_hom H hq h1, np_hom H h2, M.ok_bind, M.pure_eq]
    rfl

theorem compileHandler_hom {h : Ast} {fh res : Nat} (hq : ∀ c, Sub c h → Q c)
    (hc : compileHandler h fh res = .ok prog) :
    compileHandler (T h) fh res = .ok (prog.map (Instr.mapG T φ ψ)) := by
  simp only [compileHandler, bind_ok_iff, pure_ok_iff] at hc
  obtain ⟨name, h1, hbody, h2, bnd, h3, ty, h4, rfl⟩ := hc
  simp only [compileHandler, getOptStr_hom H h1, getNodeList_hom H h2,
    handlerBind_hom H (fun b hb => hq b (getNodeList_sub h2 b hb)) h3, getOptNode_hom H h4, M.ok_bind, M.pure_eq,
    List.map_append, Option.toList_map]
  rfl

theorem compileHandlers_hom {hs : List Ast} {r : Nat} {res : Prog × List Nat} (hq : ∀ h ∈ hs, ∀ c, Sub c h → Q c)
    (hc : compileHandlers hs r = .ok res) :
    compileHandlers (hs.map T) r = .ok (res.1.map (Instr.mapG T φ ψ), res.2) := by
  induction hs generalizing r res with
  | nil => cases hc; rfl
  | cons h hs ih =>
    simp only [compileHandlers, bind_ok_iff, pure_ok_iff] at hc
    obtain ⟨a, ha, b, hb, rfl⟩ := hc
    simp only [List.map_cons, compileHandlers, compileHandler_hom H (hq h List.mem_cons_self) ha,
      ih (fun h hh => hq h (List.mem_cons_of_mem _ hh)) hb, M.ok_bind, M.pure_eq, List.map_append]

theorem finalProg_hom {k : Nat} (h : finalProg n k = .ok prog) :
    finalProg (T n) k = .ok (prog.map (Instr.mapG T φ ψ)) := by
  unfold finalProg at h ⊢
  split at h
  · rename_i v hv
    rw [field_hom H hv]
    simp only [bind_ok_iff, pure_ok_iff] at h
    obtain ⟨fb, h1, rfl⟩ := h
    simp only [getNodeList_hom H h1, M.ok_bind, M.pure_eq]
    rfl
  · rename_i hv
    rw [H.field_none n _ hv]
    cases h; rfl

theorem compileTry_hom (hq : ∀ c, Sub c n → Q c) (h : compileTry n = .ok prog) :
    compileTry (T n) = .ok (prog.map (Instr.mapG T φ ψ)) := by
  simp only [compileTry, bind_ok_iff, pure_ok_iff] at h
  obtain ⟨body, h1, handlers, h2, hp, h3, orelse, h4, fin, h5, rfl⟩ := h
  simp only [compileTry, getNodeList_hom H h1, getNodeList_hom H h2,
    compileHandlers_hom H (fun h hh c hc => hq c (hc.trans (getNodeList_sub h2 h hh).inside)) h3, getNodeList_hom H h4, List.length_map,
    finalProg_hom H h5, M.ok_bind, M.pure_eq, List.map_append]
  rfl

theorem viewArguments_hom {a : Ast} {v : ArgsView} (h : viewArguments a = .ok v) :
    viewArguments (T a) = .ok (v.map T) := by
  simp only [viewArguments, bind_ok_iff, pure_ok_iff] at h
  obtain ⟨defaults, h1, kwd, h2, posonly, h3, aa, h4, kwonly, h5, vararg, h6, kwarg, h7, rfl⟩ := h
  simp only [viewArguments, getNodeList_hom H h1, getOptNodeList_hom H h2, optNodeList_hom H h3, getNodeList_hom H h4,
    getNodeList_hom H h5, getOptNode_hom H h6, getOptNode_hom H h7, M.ok_bind, M.pure_eq, ArgsView.map,
    List.map_append]

theorem viewArgs_hom {v : ArgsView} (h : viewArgs n = .ok v) : viewArgs (T n) = .ok (v.map T) := by
  simp only [viewArgs, bind_ok_iff] at h
  obtain ⟨args, h0, h⟩ := h
  simp only [viewArgs, getNode_hom H h0, M.ok_bind]
  exact viewArguments_hom H h

theorem annotationsOf_hom {l r : List Ast} (h : annotationsOf l = .ok r) : annotationsOf (l.map T) = .ok (r.map T) := by
  induction l generalizing r with
  | nil => cases h; rfl
  | cons a l ih =>
    simp only [annotationsOf, bind_ok_iff, pure_ok_iff] at h
    obtain ⟨ann, h1, rest, h2, rfl⟩ := h
    simp only [List.map_cons, annotationsOf, getOptNode_hom H h1, ih h2, M.ok_bind, M.pure_eq, List.map_append,
      Option.toList_map]

theorem optAnnotation_hom {a : Option Ast} {r : List Ast} (h : optAnnotation a = .ok r) :
    optAnnotation (a.map T) = .ok (r.map T) := by
  cases a with
  | none => cases h; rfl
  | some x =>
    simp only [optAnnotation, bind_ok_iff, pure_ok_iff] at h
    obtain ⟨ann, h1, rfl⟩ := h
    simp only [Option.map_some, optAnnotation, getOptNode_hom H h1, M.ok_bind, M.pure_eq, Option.toList_map]

theorem argBindings_hom {loc : Pos} {l : List Ast} {i : Nat} {idx : Bool} {bs : List Binding}
    (h : argBindings loc l i idx = .ok bs) :
    argBindings (ψ loc) (l.map T) i idx = .ok (bs.map (Binding.mapP φ ψ)) := by
  induction l generalizing i bs with
  | nil => cases h; rfl
  | cons a r ih =>
    simp only [argBindings, bind_ok_iff, pure_ok_iff] at h
    obtain ⟨name, h1, p, h2, rest, h3, rfl⟩ := h
    simp only [List.map_cons, argBindings, getStr_hom H h1, np_hom H h2, ih h3, M.ok_bind, M.pure_eq]
    rfl

theorem allArgBindings_hom {loc : Pos} {v : ArgsView} {bs : List Binding} (h : allArgBindings loc v = .ok bs) :
    allArgBindings (ψ loc) (v.map T) = .ok (bs.map (Binding.mapP φ ψ)) := by
  simp only [allArgBindings, bind_ok_iff, pure_ok_iff] at h
  obtain ⟨a, h1, b, h2, c, h3, d, h4, rfl⟩ := h
  simp only [allArgBindings, Option.toList_map, argBindings_hom H h1, argBindings_hom H h2,
    argBindings_hom H h3, argBindings_hom H h4, M.ok_bind, M.pure_eq, List.map_append]

theorem compileFunctionDef_hom (hq : ∀ c, Sub c n → Q c)
    (h : compileFunctionDef n = .ok prog) : compileFunctionDef (T n) = .ok (prog.map (Instr.mapG T φ ψ)) := by
  simp only [compileFunctionDef, bind_ok_iff, pure_ok_iff] at h
  obtain ⟨decs, h1, v, hv, a1, ha1, a2, ha2, a3, ha3, a4, ha4, returns, h2, name, h3, p, h4, body, h5,
    location, h6, args, h7, rfl⟩ := h
  simp only [compileFunctionDef, getNodeList_hom H h1, viewArgs_hom H hv, annotationsOf_hom H ha1,
    annotationsOf_hom H ha2, optAnnotation_hom H ha3, optAnnotation_hom H ha4, getOptNode_hom H h2, getStr_hom H h3,
    np_hom H h4, getNodeList_hom H h5, bodyLoc_hom H (fun b hb => hq b (getNodeList_sub h5 b hb)) h6,
    allArgBindings_hom H h7, M.ok_bind, M.pure_eq, List.map_append, List.map_map, Option.toList_map]
  rfl

theorem compileLambda_hom (hq : ∀ c, Sub c n → Q c)
    (h : compileLambda n = .ok prog) : compileLambda (T n) = .ok (prog.map (Instr.mapG T φ ψ)) := by
  simp only [compileLambda, bind_ok_iff, pure_ok_iff] at h
  obtain ⟨v, hv, a1, ha1, a2, ha2, body, h1, location, h2, p, h3, args, h4, rfl⟩ := h
  -- the location is a node position, read through `φ`; the scope's binding stores it through `ψ`
  have e2 := np_hom H h2
  rw [← H.startLoc body location (hq _ (getNode_sub h1)) (np_pos h2)] at e2
  simp only [compileLambda, viewArgs_hom H hv, annotationsOf_hom H ha1, annotationsOf_hom H ha2, getNode_hom H h1, e2,
    np_hom H h3, allArgBindings_hom H h4, M.ok_bind, M.pure_eq, List.map_append, List.map_map]
  rfl

theorem compileClassDef_hom (hq : ∀ c, Sub c n → Q c)
    (h : compileClassDef n = .ok prog) : compileClassDef (T n) = .ok (prog.map (Instr.mapG T φ ψ)) := by
  simp only [compileClassDef, bind_ok_iff, pure_ok_iff] at h
  obtain ⟨decs, h1, bases, h2, keywords, h3, name, h4, p, h5, body, h6, location, h7, rfl⟩ := h
  simp only [compileClassDef, getNodeList_hom H h1, getNodeList_hom H h2, optNodeList_hom H h3, getStr_hom H h4,
    np_hom H h5, getNodeList_hom H h6, firstLoc_hom H (fun b hb => hq b (getNodeList_sub h6 b hb)) h7, M.ok_bind,
    M.pure_eq]
  rfl

theorem compileGenerators_hom {cp : Option Pos} {gs : List Ast} {i : Nat}
    (h : compileGenerators cp gs i = .ok prog) (ht : TgtOK okPos prog) :
    compileGenerators (cp.map ψ) (gs.map T) i = .ok (prog.map (Instr.mapG T φ ψ)) := by
  induction gs generalizing i prog with
  | nil => cases h; rfl
  | cons g gs ih =>
    simp only [compileGenerators, bind_ok_iff, pure_ok_iff] at h
    obtain ⟨iter, h1, iterL, h2, target, h3, ts, h4, binds, h5, ifs, h6, rest, h7, rfl⟩ := h
    have hts : ∀ q id, Target.name q id ∈ ts → okPos q := fun q id hm =>
      let ⟨_, hl⟩ := compBinds_name h5 hm
      ht.bound (List.mem_append_left _ (List.mem_append_left _ (List.mem_append_left _ (List.mem_append_right _ hl)))) rfl
    simp only [List.map_cons, compileGenerators, get_hom H h1, single_hom H h2, getNode_hom H h3, targetsOf_hom H h4 hts,
      compBinds_mapG (T := T) h5, getNodeList_hom H h6, ih h7 (ht.sub fun x hx => List.mem_append_right _ hx),
      M.ok_bind, M.pure_eq, List.map_append, List.map_map]
    rfl

theorem eltOf_hom {elt : Ast} (h : eltOf n = .ok elt) : eltOf (T n) = .ok (T elt) := by
  unfold eltOf at h ⊢
  cases hf : n.field? "elt" with
  | none => rw [hf] at h; rw [H.field_none n _ hf]; exact get_hom H h
  | some v =>
    rw [hf] at h; rw [field_hom H hf]
    cases v with
    | node kd p ns vs =>
      cases h
      obtain ⟨_, _, _, _, e⟩ := H.node (v := .node kd p ns vs) rfl
      rw [e]; rfl
    | _ => simpa only [H.list, H.str, H.int, H.none] using get_hom H h

theorem keyProg_hom {k : Nat} (h : keyProg n k = .ok prog) :
    keyProg (T n) k = .ok (prog.map (Instr.mapG T φ ψ)) := by
  unfold keyProg at h ⊢
  split at h
  · rename_i key hv
    rw [field_hom H hv]
    simp only [bind_ok_iff, pure_ok_iff] at h
    obtain ⟨keyL, h1, rfl⟩ := h
    simp only [single_hom H h1, M.ok_bind, M.pure_eq]
    rfl
  · rename_i hv
    rw [H.field_none n _ hv]
    cases h; rfl

theorem compileComp_hom (hn : Q n) (h : compileComp n = .ok prog) (ht : TgtOK okPos prog) :
    compileComp (T n) = .ok (prog.map (Instr.mapG T φ ψ)) := by
  simp only [compileComp, bind_ok_iff, pure_ok_iff] at h
  obtain ⟨gens, h1, gprog, h2, elt, h3, eltL, h4, kprog, h5, rfl⟩ := h
  -- the comprehension's position is read through `φ`; the bindings of its generators store it through `ψ`
  have hp : (T n).pos? = n.pos?.map ψ := by
    rw [H.pos]
    cases hp : n.pos? with
    | none => rfl
    | some l => exact congrArg some (H.startLoc n l hn hp).symm
  simp only [compileComp, getNodeList_hom H h1, hp,
    compileGenerators_hom H h2
      (ht.sub fun x hx => List.mem_append_left _ (List.mem_append_left _ (List.mem_append_left _
        (List.mem_append_right _ hx)))),
    eltOf_hom H h3, single_hom H h4, List.length_map, keyProg_hom H h5, M.ok_bind, M.pure_eq, List.map_append]
  rfl

theorem nameId_hom (hg : good n "id" = true) : nameId (T n) = nameId n := by
  unfold nameId
  cases hf : n.field? "id" with
  | none => rw [H.field_none n _ hf]
  | some v =>
    rw [field_hom H hf (.inr hg)]
    cases v with
    | node kd p ns vs =>
      obtain ⟨_, _, _, _, e⟩ := H.node (v := .node kd p ns vs) rfl
      rw [e]
    | _ => simp only [H.str, H.int, H.none, H.list]

theorem compileName_hom (hg : good n "id" = true) (h : compileName n = .ok prog) :
    compileName (T n) = .ok (prog.map (Instr.mapG T φ ψ)) := by
  simp only [compileName, bind_ok_iff] at h
  obtain ⟨ctx, h1, h⟩ := h
  simp only [compileName, get_hom H h1, M.ok_bind, nameId_hom H hg, H.pos]
  cases ctx with
  | str s => rw [H.str]; split at h <;> (cases h; rfl)
  | node kd p ns vs =>
    obtain ⟨_, _, _, _, e⟩ := H.node (v := .node kd p ns vs) rfl
    rw [e]; cases h; rfl
  | _ => simp only [H.int, H.none, H.list]; cases h; rfl

end

end SuppModel.Extract
