/-
  Extract family — layout independence for a REAL pair of trees: `layoutPairOK t1 t2` (decidable, evaluated by the
  driver) provides every hypothesis of the layout theorem, with φ ψ S read off the two trees.
-/
import SuppModel.Extract.LemmasLayoutCompile
import SuppModel.Extract.LemmasLayoutGraph
import SuppModel.Props.C13

namespace SuppModel.Extract
open SuppModel.Flow

theorem compileComm_layoutQ (φ ψ : Pos → Pos) (S : List Pos) : CompileComm φ ψ S (layoutQ φ ψ S) := by
  intro n prog hn hall hp
  have hq : n.all (posQ φ ψ) = true :=
    all_mono (fun x hx => by simp only [layoutQ, Bool.and_eq_true] at hx; exact hx.1) n hall
  refine ⟨compile_comm hn hq hp, ?_⟩
  have := all_here hn hall
  simp only [layoutQ, Bool.and_eq_true, hp, List.all_eq_true, List.contains_iff_mem] at this
  intro l hl
  simpa using this.2 l hl

mutual
theorem mapPos_of_pairs (φ : Pos → Pos) : ∀ (t1 t2 : Ast), eqUpToPos t1 t2 = true →
    (∀ pq ∈ posPairs t1 t2, φ pq.1 = pq.2) → t1.mapPos φ = t2
  | .node k1 p1 ns1 vs1, t2, he, hp => by
    cases t2 with
    | node k2 p2 ns2 vs2 =>
      simp only [eqUpToPos, Bool.and_eq_true, beq_iff_eq] at he
      obtain ⟨⟨⟨rfl, hs⟩, rfl⟩, hl⟩ := he
      rw [Ast.mapPos, mapPosList_of_pairs φ vs1 vs2 hl fun pq h => hp pq (by simp [posPairs, h])]
      cases p1 with
      | none => cases p2 with
        | none => rfl
        | some b => cases hs
      | some a => cases p2 with
        | none => cases hs
        | some b => exact congrArg (Ast.node _ · _ _) (congrArg some (hp (a, b) (by simp [posPairs])))
    | _ => simp [eqUpToPos] at he
  | .list a, t2, he, hp => by
    cases t2 with
    | list b => rw [Ast.mapPos, mapPosList_of_pairs φ a b (by simpa only [eqUpToPos] using he) (by simpa only [posPairs] using hp)]
    | _ => simp [eqUpToPos] at he
  | .str a, t2, he, _ => by cases t2 <;> simp [eqUpToPos] at he; rw [he]; rfl
  | .int a, t2, he, _ => by cases t2 <;> simp [eqUpToPos] at he; rw [he]; rfl
  | .none, t2, he, _ => by cases t2 <;> simp [eqUpToPos] at he; rfl
theorem mapPosList_of_pairs (φ : Pos → Pos) : ∀ (l1 l2 : List Ast), eqUpToPosList l1 l2 = true →
    (∀ pq ∈ posPairsList l1 l2, φ pq.1 = pq.2) → mapPosList φ l1 = l2
  | [], l2, he, _ => by cases l2 <;> simp [eqUpToPosList] at he; rfl
  | x :: xs, l2, he, hp => by
    cases l2 with
    | nil => simp [eqUpToPosList] at he
    | cons y ys =>
      simp only [eqUpToPosList, Bool.and_eq_true] at he
      rw [posPairsList, List.forall_mem_append] at hp
      rw [mapPosList, mapPos_of_pairs φ x y he.1 hp.1, mapPosList_of_pairs φ xs ys he.2 hp.2]
end

theorem phiOf_of_functional {pairs : List (Pos × Pos)} (h : functional pairs = true) :
    ∀ pq ∈ pairs, phiOf pairs pq.1 = pq.2 := by
  intro pq hpq
  simp only [functional, List.all_eq_true, beq_iff_eq] at h
  simp [phiOf, h pq hpq]

theorem orderPreserving_of_orderOK {ψ : Pos → Pos} {S : List Pos} (h : orderOK ψ S = true) : OrderPreserving ψ S := by
  intro a ha b hb
  simp only [orderOK, List.all_eq_true, List.mem_map, beq_iff_eq] at h
  exact h (a, ψ a) ⟨a, ha, rfl⟩ (b, ψ b) ⟨b, hb, rfl⟩

theorem queries_of_queriesOK {φ ψ : Pos → Pos} {S qs : List Pos} (h : queriesOK φ ψ S qs = true) :
    ∀ p ∈ qs, ψ p = φ p ∧ ∀ l ∈ S, Pos.lt (ψ p) (ψ l) = Pos.lt p l := by
  intro p hp
  simp only [queriesOK, List.all_eq_true, Bool.and_eq_true, decide_eq_true_eq, List.mem_map, beq_iff_eq] at h
  obtain ⟨h1, h2⟩ := h p hp
  exact ⟨h1, fun l hl => h2 (l, ψ l) ⟨l, hl, rfl⟩⟩

theorem layoutPairOK_spec {t1 t2 : Ast} (h : layoutPairOK t1 t2 = true) :
    t1.mapPos (pairPhi t1 t2) = t2 ∧
    t1.all (layoutQ (pairPhi t1 t2) (pairPsi t1 t2) (pairS t1)) = true ∧
    OrderPreserving (pairPsi t1 t2) (pairS t1) ∧
    ∀ p ∈ namePos t1, pairPsi t1 t2 p = pairPhi t1 t2 p ∧
      ∀ l ∈ pairS t1, Pos.lt (pairPsi t1 t2 p) (pairPsi t1 t2 l) = Pos.lt p l := by
  simp only [layoutPairOK, Bool.and_eq_true] at h
  obtain ⟨⟨⟨⟨h1, h2⟩, h3⟩, h4⟩, h5⟩ := h
  exact ⟨mapPos_of_pairs _ t1 t2 h1 (phiOf_of_functional h2), h3, orderPreserving_of_orderOK h4,
    queries_of_queriesOK h5⟩

/-- a layout pair at extractor level, seen from positions that do not move (the cursor of a mark and the names left of
    it): the second extraction succeeds, the graphs have the same shape, the recorded attribute assignments correspond,
    a `.flow` attribute recorded at such a position is recorded there again, and a query at a position that makes the
    same comparisons with the stored locations sees the same table (`C13_layouts`) -/
theorem extract_pair_at {t1 t2 : Ast} (hok : layoutPairOK t1 t2 = true) (lines1 lines2 : List Text.Str)
    (mods : List (String × List String)) {s1 : St} (b : List String) (h : extract lines1 mods t1 = .ok s1) :
    ∃ s2, extract lines2 mods t2 = .ok s2 ∧ sameShape (s1.toGraph b) (s2.toGraph b) = true ∧
      s2.attrAssigns = s1.attrAssigns.map (fun x => (x.1, x.2.map (pairPhi t1 t2))) ∧
      (∀ q id f, pairPhi t1 t2 q = q → (some q, id, f) ∈ s1.flowAttrs → (some q, id, f) ∈ s2.flowAttrs) ∧
      ∀ q, (∀ l ∈ pairS t1, Pos.lt q (pairPsi t1 t2 l) = Pos.lt q l) → ∀ (n : Nat) (R : List Nat) (f : Nat),
        namesAt (s2.toGraph b) n R f q = namesAt (s1.toGraph b) n R f q := by
  obtain ⟨hmap, hq, hop, _⟩ := layoutPairOK_spec hok
  obtain ⟨s2, e, hs, hl⟩ := extract_sim hop lines1 lines2 mods (compileComm_layoutQ _ _ _) t1 hq s1 h
  refine ⟨s2, hmap ▸ e, hs.sameShape b, hs.attrAssigns, fun q id f hφ hm => ?_,
    fun q hlt n R f => Props.C13.C13_layouts _ _ n R f q q (hs.sameShape b) (hs.queryIsoAt hl b f hlt)⟩
  rw [hs.flowAttrs]
  exact List.mem_map.mpr ⟨_, hm, by simp [hφ]⟩

end SuppModel.Extract
