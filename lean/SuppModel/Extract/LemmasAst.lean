/-
  Extract family — facts about the serialised tree: what the accessors return lies strictly inside the
  node (smaller, and every node of it is a node of the tree), and which child nodes of the node it is (`fieldKids`).
-/
import SuppModel.Extract.Shape

namespace SuppModel.Extract
open SuppModel.Flow

theorem bind_ok_iff {α β} (x : M α) (f : α → M β) (b : β) :
    (x >>= f) = .ok b ↔ ∃ a, x = .ok a ∧ f a = .ok b := by
  cases x <;> simp [bind, Except.bind]

theorem pure_ok_iff {α} (a b : α) : (pure a : M α) = .ok b ↔ a = b := by
  simp [pure, Except.pure]

theorem ok_inj {α} {a b : α} : (Except.ok a : M α) = .ok b ↔ a = b := by
  constructor
  · intro h; injection h
  · intro h; rw [h]

/-- `v` lies strictly inside `n` -/
structure Inside (v n : Ast) : Prop where
  size : v.size < n.size
  all : ∀ p, n.all p = true → v.all p = true

/-- `c` is a node strictly inside `n` -/
structure Sub (c n : Ast) : Prop where
  node : c.isNode = true
  inside : Inside c n

theorem Inside.trans {a b c : Ast} (h1 : Inside a b) (h2 : Inside b c) : Inside a c :=
  ⟨Nat.lt_trans h1.size h2.size, fun p h => h1.all p (h2.all p h)⟩

theorem Sub.trans {a b c : Ast} (h1 : Sub a b) (h2 : Inside b c) : Sub a c :=
  ⟨h1.node, h1.inside.trans h2⟩

theorem size_le_sizeList {v : Ast} {vs : List Ast} (h : v ∈ vs) : v.size ≤ sizeList vs := by
  induction vs with
  | nil => cases h
  | cons x xs ih =>
    simp only [sizeList]
    cases h with
    | head => omega
    | tail _ h => have := ih h; omega

theorem all_of_allList {p : Ast → Bool} {v : Ast} {vs : List Ast} (h : v ∈ vs) (ha : allList p vs = true) :
    v.all p = true := by
  induction vs with
  | nil => cases h
  | cons x xs ih =>
    simp only [allList, Bool.and_eq_true] at ha
    cases h with
    | head => exact ha.1
    | tail _ h => exact ih h ha.2

theorem all_here {p : Ast → Bool} {n : Ast} (hn : n.isNode = true) (h : n.all p = true) : p n = true := by
  cases n with
  | node k ps ns vs => exact (Bool.and_eq_true _ _ ▸ h).1
  | _ => cases hn

theorem inside_of_mem_vals {v n : Ast} (h : v ∈ n.vals) : Inside v n := by
  cases n with
  | node k p ns vs =>
    exact ⟨Nat.lt_one_add_iff.mpr (size_le_sizeList h), fun q hq => all_of_allList h (Bool.and_eq_true _ _ ▸ hq).2⟩
  | _ => cases h

theorem inside_of_mem_items {v : Ast} {items} (h : v ∈ items) : Inside v (.list items) :=
  ⟨Nat.lt_one_add_iff.mpr (size_le_sizeList h), fun _ => all_of_allList h⟩

theorem lookupField_mem {k : String} {ns : List String} {vs : List Ast} {v : Ast}
    (h : lookupField k ns vs = some v) : v ∈ vs := by
  fun_induction lookupField k ns vs with
  | case1 => cases h; exact List.mem_cons_self
  | case2 n ns x xs hk ih => exact List.mem_cons_of_mem _ (ih h)
  | case3 => cases h

theorem lookupField_eq_none {k : String} {ns : List String} (vs : List Ast) (h : k ∉ ns) : lookupField k ns vs = none := by
  fun_induction lookupField k ns vs with
  | case1 => exact absurd List.mem_cons_self h
  | case2 n ns x xs hk ih => exact ih fun hm => h (List.mem_cons_of_mem _ hm)
  | case3 => rfl

variable {n : Ast} {k : String}

theorem field?_eq_none (h : k ∉ n.fieldNames) : n.field? k = none :=
  lookupField_eq_none _ h

theorem field_inside {v : Ast} (h : n.field? k = some v) : Inside v n :=
  inside_of_mem_vals (lookupField_mem h)

theorem get_ok_iff {v : Ast} : n.get k = .ok v ↔ n.field? k = some v := by
  unfold Ast.get
  split <;> simp [*]

theorem childrenOfVal_sub {v n : Ast} (hv : Inside v n) : ∀ c ∈ childrenOfVal v, Sub c n := by
  intro c hc
  cases v with
  | node k p ns vs =>
    simp only [childrenOfVal, List.mem_singleton] at hc; subst hc; exact ⟨rfl, hv⟩
  | list items =>
    simp only [childrenOfVal] at hc
    have hc' := List.mem_filter.mp hc
    exact ⟨hc'.2, (inside_of_mem_items hc'.1).trans hv⟩
  | _ => cases hc

/-- the child nodes the field `k` of `n` contributes to `generic_visit(n)` (none when `n` has no such field) -/
def fieldKids (n : Ast) (k : String) : List Ast :=
  match n.field? k with
  | some v => childrenOfVal v
  | none => []

theorem fieldKids_of_field {v : Ast} (h : n.field? k = some v) :
    fieldKids n k = childrenOfVal v := by
  simp only [fieldKids, h]

theorem fieldKids_sub : ∀ c ∈ fieldKids n k, Sub c n := by
  unfold fieldKids
  split
  · next v hv => exact childrenOfVal_sub (field_inside hv)
  · nofun

/-- every accessor is `n.get k` followed by a test `g` of the value, so what it says about the field's child nodes
    is what `g` says about the value's -/
theorem kids_of_get_bind {β} {g : Ast → M β} {b : β} {l : List Ast}
    (h : (n.get k >>= g) = .ok b) (hg : ∀ v, g v = .ok b → childrenOfVal v = l) : fieldKids n k = l := by
  obtain ⟨v, hv, h⟩ := (bind_ok_iff ..).mp h
  rw [fieldKids_of_field (get_ok_iff.mp hv)]
  exact hg v h

theorem getNode_kids {c : Ast} (h : getNode n k = .ok c) : fieldKids n k = [c] :=
  kids_of_get_bind h fun v hv => by cases v <;> cases hv <;> rfl

theorem getOptNode_kids {o : Option Ast} (h : getOptNode n k = .ok o) :
    fieldKids n k = o.toList :=
  kids_of_get_bind h fun v hv => by cases v <;> cases hv <;> rfl

theorem getNodeList_kids {l : List Ast} (h : getNodeList n k = .ok l) : fieldKids n k = l :=
  kids_of_get_bind h fun v hv => by
    split at hv
    · split at hv <;> cases hv
      next hall => exact List.filter_eq_self.mpr fun a ha => List.all_eq_true.mp hall a ha
    · cases hv

theorem getOptNodeList_kids {l : List Ast} (h : getOptNodeList n k = .ok l) :
    fieldKids n k = l :=
  kids_of_get_bind h fun v hv => by
    split at hv
    · split at hv <;> cases hv
      rfl
    · cases hv

theorem getStr_kids {s : String} (h : getStr n k = .ok s) : fieldKids n k = [] :=
  kids_of_get_bind h fun v hv => by cases v <;> cases hv <;> rfl

theorem getOptStr_kids {s : Option String} (h : getOptStr n k = .ok s) : fieldKids n k = [] :=
  kids_of_get_bind h fun v hv => by cases v <;> cases hv <;> rfl

theorem single_kids {v : Ast} {l : List Ast} (h : single v = .ok l) : childrenOfVal v = l := by
  unfold single at h
  split at h <;> cases h <;> rfl

theorem optNodeList_kids {l : List Ast} (h : optNodeList n k = .ok l) : fieldKids n k = l := by
  unfold optNodeList at h
  split at h
  · exact getNodeList_kids h
  · next hnone => cases h; simp only [fieldKids, hnone]

theorem getNode_sub {c : Ast} (h : getNode n k = .ok c) : Sub c n :=
  fieldKids_sub c ((getNode_kids h).symm ▸ List.mem_singleton_self c)

theorem getOptNode_sub {c : Ast} (h : getOptNode n k = .ok (some c)) : Sub c n :=
  fieldKids_sub c (by rw [getOptNode_kids h]; exact List.mem_singleton_self c)

theorem getNodeList_sub {l : List Ast} (h : getNodeList n k = .ok l) :
    ∀ c ∈ l, Sub c n :=
  getNodeList_kids h ▸ fieldKids_sub

theorem children_sub : ∀ c ∈ n.children, Sub c n := by
  intro c hc
  obtain ⟨v, hv, hc⟩ := List.mem_flatMap.mp hc
  exact childrenOfVal_sub (inside_of_mem_vals hv) c hc

/-- stated for any `g` that agrees with the lookup on `ns`, so that the tail of the list, where the lookup skips
    the head, is again an instance -/
theorem flatMap_lookupField (f : Ast → List Ast) (g : String → Option Ast) : ∀ (ns : List String) (vs : List Ast),
    vs.length = ns.length → ns.Nodup → (∀ k ∈ ns, g k = lookupField k ns vs) →
    ns.flatMap (fun k => match g k with | some v => f v | none => []) = vs.flatMap f
  | [], [], _, _, _ => rfl
  | [], _ :: _, h, _, _ => by cases h
  | _ :: _, [], h, _, _ => by cases h
  | a :: ns, v :: vs, hlen, hnd, hg => by
    rw [List.nodup_cons] at hnd
    rw [List.flatMap_cons, List.flatMap_cons, hg a List.mem_cons_self, lookupField, if_pos rfl]
    congr 1
    exact flatMap_lookupField f g ns vs (by simpa using hlen) hnd.2 fun k hk => by
      rw [hg k (List.mem_cons_of_mem _ hk), lookupField, if_neg fun (e : a = k) => hnd.1 (e ▸ hk)]

theorem children_eq_fieldKids (hlen : n.vals.length = n.fieldNames.length) (hnd : n.fieldNames.Nodup) :
    n.children = n.fieldNames.flatMap (fieldKids n) :=
  (flatMap_lookupField childrenOfVal n.field? _ _ hlen hnd fun _ _ => rfl).symm

mutual
theorem all_mono {Q Q' : Ast → Bool} (hq : ∀ x, Q x = true → Q' x = true) : ∀ (n : Ast), n.all Q = true → n.all Q' = true
  | .node k p ns vs, h => by
    simp only [Ast.all, Bool.and_eq_true] at h ⊢
    exact ⟨hq _ h.1, allList_mono hq vs h.2⟩
  | .list items, h => by
    simp only [Ast.all] at h ⊢
    exact allList_mono hq items h
  | .str _, _ => rfl
  | .int _, _ => rfl
  | .none, _ => rfl
theorem allList_mono {Q Q' : Ast → Bool} (hq : ∀ x, Q x = true → Q' x = true) : ∀ (l : List Ast), allList Q l = true → allList Q' l = true
  | [], _ => rfl
  | x :: xs, h => by
    simp only [allList, Bool.and_eq_true] at h ⊢
    exact ⟨all_mono hq x h.1, allList_mono hq xs h.2⟩
end

mutual
theorem all_const_true : ∀ (t : Ast), t.all (fun _ => true) = true
  | .node k p ns vs => by simp only [Ast.all, Bool.true_and]; exact allList_const_true vs
  | .list items => by simp only [Ast.all]; exact allList_const_true items
  | .str _ => rfl
  | .int _ => rfl
  | .none => rfl
theorem allList_const_true : ∀ (l : List Ast), allList (fun _ => true) l = true
  | [] => rfl
  | x :: xs => by simp only [allList, all_const_true x, allList_const_true xs, Bool.and_self]
end

end SuppModel.Extract
