/-
  Extract family — node homomorphisms: a transformation `T` of the serialised tree that keeps what the visit methods
  read, while node positions move by `φ` and the locations stored in names by `ψ` (instances: `Ast.mapPos`, `TLaws`).
  The notion, and what the visit methods share (accessors, assignment targets, body locations) commutes with it.
-/
import SuppModel.Extract.Trans
import SuppModel.Extract.LemmasAst

namespace SuppModel.Extract
open SuppModel.Flow

theorem M.ok_bind {α β} (a : α) (f : α → M β) : (Except.ok a >>= f) = f a := rfl
theorem M.pure_eq {α} (a : α) : (pure a : M α) = .ok a := rfl

/-- the actions of the same visit method on the transformed tree -/
def Instr.mapG (T : Ast → Ast) (φ ψ : Pos → Pos) : Instr → Instr
  | .visit c => .visit (T c)
  | .visitIn cs f d => .visitIn (cs.map T) f d
  | .addName f b => .addName f (b.mapP φ ψ)
  | .compName f b => .compName f (b.mapP φ ψ)
  | .flowAttr p id f => .flowAttr (p.map φ) id f
  | .attrAssign p => .attrAssign (p.map φ)
  | .addStar loc start m => .addStar (ψ loc) (start.mapP φ) m
  | .scopeBody cls self reg args body =>
    .scopeBody cls (self.mapP φ ψ) reg (args.map (Binding.mapP φ ψ)) (body.map T)
  | i => i

def Target.mapP (φ : Pos → Pos) : Target → Target
  | .name p id => .name (φ p) id
  | .attr p => .attr (p.map φ)
  | .skip => .skip

abbrev ArgsView.map (T : Ast → Ast) (v : ArgsView) : ArgsView :=
  { defaults := v.defaults.map T, kwDefaults := v.kwDefaults.map T, positional := v.positional.map T,
    kwonly := v.kwonly.map T, vararg := v.vararg.map T, kwarg := v.kwarg.map T }

/-- `T` keeps node-ness, class, size and the children `generic_visit` sees; a field holds the transformed value
    whenever `good n k` (always for a field other than `id` / `attr`; for `id` when the node's position is `okPos`);
    at a node satisfying `Q`, `ψ` agrees with `φ` on its position, maps its `get_expr_end` and the
    decorator-line / statement-column mix `get_first_body_node_loc` makes of it -/
structure NodeHom (T : Ast → Ast) (φ ψ : Pos → Pos) (good : Ast → String → Bool) (okPos : Pos → Prop)
    (Q : Ast → Prop) : Prop where
  isNode : ∀ n, (T n).isNode = n.isNode
  kind : ∀ n, (T n).kind = n.kind
  pos : ∀ n, (T n).pos? = n.pos?.map φ
  size : ∀ n, (T n).size = n.size
  children : ∀ n, (T n).children = n.children.map T
  field_some : ∀ n k v, n.field? k = some v → good n k = true → (T n).field? k = some (T v)
  field_none : ∀ n k, n.field? k = none → (T n).field? k = none
  str : ∀ x, T (.str x) = .str x
  int : ∀ i, T (.int i) = .int i
  none : T .none = .none
  list : ∀ l, T (.list l) = .list (l.map T)
  lit : ∀ n k, k ≠ "id" → k ≠ "attr" → good n k = true
  idgood : ∀ n q, n.pos? = some q → okPos q → good n "id" = true
  startLoc : ∀ n p, Q n → n.pos? = some p → ψ p = φ p
  endLoc : ∀ n p, Q n → n.pos? = some p → lastLoc (T n) ((φ p).1, (φ p).2 + 1) = ψ (lastLoc n (p.1, p.2 + 1))
  mixLoc : ∀ b d ds dp bp, Q b → (b.kind == "FunctionDef" || b.kind == "ClassDef") = true →
    getNodeList b "decorator_list" = .ok (d :: ds) → d.pos? = some dp → b.pos? = some bp →
    ψ (dp.1, bp.2) = ((φ dp).1, (φ bp).2)

/-- the side condition of the accessor lemmas below, as a default argument: at a call with a literal field name other
    than `id` / `attr` `simp` proves it, and only the readers of an `id` pass `.inr` of a reason -/
def Kept (good : Ast → String → Bool) (n : Ast) (k : String) : Prop := k ≠ "id" ∧ k ≠ "attr" ∨ good n k = true

theorem TgtOK.bound {okPos : Pos → Prop} {prog : Prog} (h : TgtOK okPos prog) {i : Instr} (hm : i ∈ prog)
    {id : String} {loc q : Pos} (hb : i.binding? = some (assigned id loc q)) : okPos q :=
  h i hm _ hb rfl

theorem TgtOK.sub {okPos : Pos → Prop} {prog prog' : Prog} (h : TgtOK okPos prog) (hs : ∀ i ∈ prog', i ∈ prog) :
    TgtOK okPos prog' := fun i hi => h i (hs i hi)

theorem lookupField_map (f : Ast → Ast) (k : String) (ns : List String) (vs : List Ast) :
    lookupField k ns (vs.map f) = (lookupField k ns vs).map f := by
  induction ns generalizing vs with
  | nil => cases vs <;> rfl
  | cons n ns ih =>
    cases vs with
    | nil => rfl
    | cons v vs =>
      simp only [List.map_cons, lookupField]
      split
      · rfl
      · exact ih vs

theorem np_pos {n : Ast} {p : Pos} (h : np n = .ok p) : n.pos? = some p := by
  unfold np at h
  split at h
  · rename_i q hq; cases h; exact hq
  · cases h

/-- both sides make the same test -/
theorem ite_hom {α} {c : Prop} [Decidable c] {a b a' b' : M α} {r r' : α} (h : (if c then a else b) = .ok r)
    (ht : c → a = .ok r → a' = .ok r') (he : ¬c → b = .ok r → b' = .ok r') : (if c then a' else b') = .ok r' := by
  by_cases hc : c
  · rw [if_pos hc] at h ⊢; exact ht hc h
  · rw [if_neg hc] at h ⊢; exact he hc h

theorem concatM_hom {T : Ast → Ast} {f f' : Ast → M (List Ast)} (hf : ∀ e r, f e = .ok r → f' (T e) = .ok (r.map T)) :
    ∀ l r, concatM f l = .ok r → concatM f' (l.map T) = .ok (r.map T)
  | [], r, h => by cases h; rfl
  | e :: es, r, h => by
    simp only [concatM, bind_ok_iff, pure_ok_iff] at h
    obtain ⟨a, ha, b, hb, rfl⟩ := h
    simp only [List.map_cons, concatM, hf e a ha, concatM_hom hf es b hb, M.ok_bind, M.pure_eq, List.map_append]

section
variable {T : Ast → Ast} {φ ψ : Pos → Pos} {good : Ast → String → Bool} {okPos : Pos → Prop} {Q : Ast → Prop}
  (H : NodeHom T φ ψ good okPos Q) {n : Ast} {k : String}
include H

theorem NodeHom.node {v : Ast} (hv : v.isNode = true) : ∃ k p ns vs, T v = .node k p ns vs := by
  have := H.isNode v
  rw [hv] at this
  cases h : T v with
  | node k p ns vs => exact ⟨k, p, ns, vs, rfl⟩
  | _ => rw [h] at this; cases this

theorem field_hom {v : Ast} (h : n.field? k = some v) (hk : Kept good n k := by simp [Kept]) :
    (T n).field? k = some (T v) :=
  H.field_some n k v h (hk.elim (fun h => H.lit n k h.1 h.2) id)

theorem get_hom {v : Ast} (h : n.get k = .ok v) (hk : Kept good n k := by simp [Kept]) :
    (T n).get k = .ok (T v) :=
  get_ok_iff.2 (field_hom H (get_ok_iff.1 h) hk)

/-- an accessor is `n.get k >>= g`: it commutes with `T` once `g` does on the value read -/
theorem get_bind_hom {α β} {g : Ast → M α} {g' : Ast → M β} {r : α} {r' : β} (h : (n.get k >>= g) = .ok r)
    (hk : Kept good n k) (hg : ∀ w, g w = .ok r → g' (T w) = .ok r') : ((T n).get k >>= g') = .ok r' := by
  obtain ⟨w, hw, h⟩ := (bind_ok_iff ..).1 h
  rw [get_hom H hw hk]
  exact hg w h

theorem getNode_hom {v : Ast} (h : getNode n k = .ok v) (hk : Kept good n k := by simp [Kept]) :
    getNode (T n) k = .ok (T v) :=
  get_bind_hom H h hk fun w hw => by
    rw [H.isNode]
    split at hw
    · cases hw; exact if_pos ‹_›
    · cases hw

theorem isNode_comp : Ast.isNode ∘ T = Ast.isNode := funext H.isNode

theorem getNodeList_hom {l : List Ast} (h : getNodeList n k = .ok l)
    (hk : Kept good n k := by simp [Kept]) : getNodeList (T n) k = .ok (l.map T) :=
  get_bind_hom H h hk fun w hw => by
    cases w with
    | list items =>
      rw [H.list]
      dsimp only at hw ⊢
      rw [List.all_map, isNode_comp H]
      split at hw
      · cases hw; exact if_pos ‹_›
      · cases hw
    | _ => cases hw

theorem getOptNode_hom {o : Option Ast} (h : getOptNode n k = .ok o)
    (hk : Kept good n k := by simp [Kept]) : getOptNode (T n) k = .ok (o.map T) :=
  get_bind_hom H h hk fun w hw => by
    cases w with
    | node kd p ns vs =>
      cases hw
      obtain ⟨_, _, _, _, e⟩ := H.node (v := .node kd p ns vs) rfl
      rw [Option.map_some, e]; rfl
    | none => cases hw; rw [H.none]; rfl
    | _ => cases hw

theorem getOptNodeList_hom {l : List Ast} (h : getOptNodeList n k = .ok l)
    (hk : Kept good n k := by simp [Kept]) : getOptNodeList (T n) k = .ok (l.map T) :=
  get_bind_hom H h hk fun w hw => by
    cases w with
    | list items =>
      rw [H.list]
      dsimp only at hw ⊢
      rw [List.filter_map, isNode_comp H]
      split at hw
      · rename_i hall
        cases hw
        refine if_pos (Eq.trans ?_ hall)
        rw [List.all_map]
        congr 1
        funext y
        rw [Function.comp, H.isNode]
        cases y with
        | node => rfl
        | _ => simp only [H.list, H.str, H.int, H.none]
      · cases hw
    | _ => cases hw

theorem getStr_hom {s : String} (h : getStr n k = .ok s) (hk : Kept good n k := by simp [Kept]) :
    getStr (T n) k = .ok s :=
  get_bind_hom H h hk fun w hw => by
    cases w <;> cases hw
    rw [H.str]; rfl

theorem getOptStr_hom {s : Option String} (h : getOptStr n k = .ok s)
    (hk : Kept good n k := by simp [Kept]) : getOptStr (T n) k = .ok s :=
  get_bind_hom H h hk fun w hw => by
    cases w <;> cases hw
    · rw [H.str]; rfl
    · rw [H.none]; rfl

theorem getInt_hom {i : Int} (h : getInt n k = .ok i) (hk : Kept good n k := by simp [Kept]) :
    getInt (T n) k = .ok i :=
  get_bind_hom H h hk fun w hw => by
    cases w <;> cases hw
    rw [H.int]; rfl

theorem strsOf_hom : ∀ items : List Ast, strsOf (items.map T) = strsOf items
  | [] => rfl
  | x :: xs => by
    cases x with
    | node kd p ns vs =>
      obtain ⟨_, _, _, _, e⟩ := H.node (v := .node kd p ns vs) rfl
      simp only [List.map_cons, e, strsOf]
    | _ => simp only [List.map_cons, H.str, H.list, H.int, H.none, strsOf, strsOf_hom xs]

theorem getStrList_hom {l : List String} (h : getStrList n k = .ok l)
    (hk : Kept good n k := by simp [Kept]) : getStrList (T n) k = .ok l :=
  get_bind_hom H h hk fun w hw => by
    cases w with
    | list items => rw [H.list]; exact (strsOf_hom H items).trans hw
    | _ => cases hw

theorem single_hom {v : Ast} {l : List Ast} (h : single v = .ok l) : single (T v) = .ok (l.map T) := by
  cases v with
  | none => cases h; rw [H.none]; rfl
  | node kd p ns vs =>
    cases h
    obtain ⟨_, _, _, _, e⟩ := H.node (v := .node kd p ns vs) rfl
    simp only [List.map_cons, List.map_nil, e, single, M.pure_eq]
  | _ => cases h

theorem optNodeList_hom {l : List Ast} (h : optNodeList n k = .ok l)
    (hk : Kept good n k := by simp [Kept]) : optNodeList (T n) k = .ok (l.map T) := by
  unfold optNodeList at h ⊢
  split at h
  · rename_i v hv
    rw [field_hom H hv hk]
    exact getNodeList_hom H h hk
  · rename_i hv
    rw [H.field_none n k hv]
    cases h; rfl

theorem np_hom {p : Pos} (h : np n = .ok p) : np (T n) = .ok (φ p) := by
  unfold np
  rw [H.pos, np_pos h]; rfl

theorem exprEnd_hom {e : Pos} (hq : Q n) (h : exprEnd n = .ok e) : exprEnd (T n) = .ok (ψ e) := by
  simp only [exprEnd, bind_ok_iff, pure_ok_iff] at h
  obtain ⟨p, hp, rfl⟩ := h
  simp only [exprEnd, np_hom H hp, M.ok_bind, M.pure_eq, H.endLoc n p hq (np_pos hp)]

theorem generic_hom : generic (T n) = (generic n).map (Instr.mapG T φ ψ) := by
  simp only [generic, H.children, List.map_map]
  rfl

theorem isSeq_hom (t : Ast) : isSeq (T t) = isSeq t := by simp only [isSeq, H.isNode, H.kind]

theorem targetsFuel_hom : ∀ fuel t r, targetsFuel fuel t = .ok r → targetsFuel fuel (T t) = .ok (r.map T)
  | 0, _, _, h => by cases h
  | fuel + 1, t, r, h => by
    simp only [targetsFuel, isSeq_hom H, H.isNode, H.kind] at h ⊢
    refine ite_hom h (fun _ h => ?_) fun _ h => ite_hom h (fun _ h => ?_) fun _ h => by cases h; rfl
    · obtain ⟨elts, he, h⟩ := (bind_ok_iff ..).1 h
      rw [getNodeList_hom H he]
      exact concatM_hom (targetsFuel_hom fuel) elts r h
    · obtain ⟨v, hv, h⟩ := (bind_ok_iff ..).1 h
      rw [get_hom H hv, M.ok_bind, isSeq_hom H]
      exact ite_hom h (fun _ => targetsFuel_hom fuel v r) fun _ h => by cases h; rfl

/-- a target that is a name must be declared at an `okPos` position: its `id` is read.  The condition speaks of the
    result, which is why these lemmas say "succeeds with `r` ⇒ succeeds with the image of `r`" and are not equations. -/
theorem classifyTarget_hom {t : Ast} {r : Target} (h : classifyTarget t = .ok r)
    (hr : ∀ q id, r = .name q id → okPos q) : classifyTarget (T t) = .ok (r.mapP φ) := by
  simp only [classifyTarget, H.isNode, H.kind, H.pos] at h ⊢
  refine ite_hom h (fun _ h => by cases h; rfl) fun _ h => ite_hom h (fun _ h => by cases h; rfl) fun _ h => ?_
  simp only [bind_ok_iff, pure_ok_iff] at h
  obtain ⟨id, e1, p, e2, rfl⟩ := h
  simp only [getStr_hom H e1 (.inr (H.idgood t p (np_pos e2) (hr p id rfl))), np_hom H e2, M.ok_bind, M.pure_eq,
    Target.mapP]

theorem classifyAll_hom : ∀ (l : List Ast) (r : List Target), classifyAll l = .ok r →
    (∀ q id, Target.name q id ∈ r → okPos q) → classifyAll (l.map T) = .ok (r.map (Target.mapP φ))
  | [], r, h, _ => by cases h; rfl
  | t :: ts, r, h, hr => by
    simp only [classifyAll, bind_ok_iff, pure_ok_iff] at h
    obtain ⟨a, ha, b, hb, rfl⟩ := h
    simp only [List.map_cons, classifyAll, classifyTarget_hom H ha (fun q id e => hr q id (e ▸ List.mem_cons_self)),
      classifyAll_hom ts b hb (fun q id hm => hr q id (List.mem_cons_of_mem _ hm)), M.ok_bind, M.pure_eq]

theorem targetsOf_hom {t : Ast} {r : List Target} (h : targetsOf t = .ok r)
    (hr : ∀ q id, Target.name q id ∈ r → okPos q) : targetsOf (T t) = .ok (r.map (Target.mapP φ)) := by
  simp only [targetsOf, bind_ok_iff] at h
  obtain ⟨ts, h1, h2⟩ := h
  simp only [targetsOf, H.size, targetsFuel_hom H _ _ _ h1, M.ok_bind]
  exact classifyAll_hom H ts r h2 hr

theorem targetsOfList_hom : ∀ (l : List Ast) (r : List Target), targetsOfList l = .ok r →
    (∀ q id, Target.name q id ∈ r → okPos q) → targetsOfList (l.map T) = .ok (r.map (Target.mapP φ))
  | [], r, h, _ => by cases h; rfl
  | t :: ts, r, h, hr => by
    simp only [targetsOfList, bind_ok_iff, pure_ok_iff] at h
    obtain ⟨a, ha, b, hb, rfl⟩ := h
    simp only [List.map_cons, targetsOfList, targetsOf_hom H ha (fun q id hm => hr q id (List.mem_append_left _ hm)),
      targetsOfList_hom ts b hb (fun q id hm => hr q id (List.mem_append_right _ hm)), M.ok_bind, M.pure_eq,
      List.map_append]

theorem firstBodyLoc_hom {body : List Ast} {l : Option Pos} (hq : ∀ b ∈ body, Q b) (h : firstBodyLoc body = .ok l) :
    firstBodyLoc (body.map T) = .ok (l.map ψ) := by
  cases body with
  | nil => cases h; rfl
  | cons b rest =>
    have hqb := hq b List.mem_cons_self
    simp only [firstBodyLoc, List.map_cons, H.kind] at h ⊢
    refine ite_hom h (fun hk h => ?_) fun _ h => ?_
    · simp only [bind_ok_iff] at h
      obtain ⟨decs, hd, h⟩ := h
      simp only [getNodeList_hom H hd, M.ok_bind]
      cases decs with
      | nil =>
        simp only [bind_ok_iff, pure_ok_iff] at h
        obtain ⟨p, hp, rfl⟩ := h
        simp only [List.map_nil, np_hom H hp, M.ok_bind, M.pure_eq, Option.map_some, H.startLoc b p hqb (np_pos hp)]
      | cons d ds =>
        simp only [bind_ok_iff, pure_ok_iff] at h
        obtain ⟨dp, h1, bp, h2, rfl⟩ := h
        simp only [List.map_cons, np_hom H h1, np_hom H h2, M.ok_bind, M.pure_eq, Option.map_some,
          H.mixLoc b d ds dp bp hqb hk hd (np_pos h1) (np_pos h2)]
    · simp only [bind_ok_iff, pure_ok_iff] at h
      obtain ⟨p, hp, rfl⟩ := h
      simp only [np_hom H hp, M.ok_bind, M.pure_eq, Option.map_some, H.startLoc b p hqb (np_pos hp)]

theorem bodyLoc_hom {body : List Ast} {l : Pos} (hq : ∀ b ∈ body, Q b) (h : bodyLoc body = .ok l) :
    bodyLoc (body.map T) = .ok (ψ l) := by
  simp only [bodyLoc, bind_ok_iff] at h
  obtain ⟨o, ho, h⟩ := h
  simp only [bodyLoc, firstBodyLoc_hom H hq ho, M.ok_bind]
  cases o with
  | none => cases h
  | some p => cases h; rfl

theorem firstLoc_hom {body : List Ast} {l : Pos} (hq : ∀ b ∈ body, Q b) (h : firstLoc body = .ok l) :
    firstLoc (body.map T) = .ok (ψ l) := by
  cases body with
  | nil => cases h
  | cons b rest =>
    simp only [List.map_cons, firstLoc, np_hom H h, H.startLoc b l (hq b List.mem_cons_self) (np_pos h)]

end

end SuppModel.Extract
