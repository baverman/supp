/-
  Extract family — extraction does not depend on the `id` of a read nor on the `attr` of an attribute access:
  `Ast.rename` and `Ast.renameAttr` are string edits (`StrEdit`), so they satisfy `TLaws`; the reading half of every
  visit method commutes with them (evaluated: `renQ`, `renAQ`; proved: `compile_trans`, with the side condition `tgtQ`
  for `rename`), and the interpreter never reads what they change (`extract_mapKR`).
-/
import SuppModel.Extract.LemmasStrEdit
import SuppModel.Extract.LemmasBeq
import SuppModel.Extract.LemmasAttrSim
import SuppModel.Extract.LemmasHomCompile

namespace SuppModel.Extract
open SuppModel.Flow

theorem setId_eq (s : String) : ∀ ns vs, setId s ns vs = setStr "id" s ns vs
  | [], _ => rfl
  | _ :: _, [] => rfl
  | n :: ns, v :: vs => by
    simp only [setId, setStr, setId_eq s ns vs]
    rfl

theorem setAttr_eq (s : String) : ∀ ns vs, setAttr s ns vs = setStr "attr" s ns vs
  | [], _ => rfl
  | _ :: _, [] => rfl
  | n :: ns, v :: vs => by
    simp only [setAttr, setStr, setAttr_eq s ns vs]
    rfl

theorem renameList_eq (p : Pos) (s : String) (l : List Ast) : renameList p s l = l.map (Ast.rename p s) := by
  induction l with
  | nil => rfl
  | cons x xs ih => rw [renameList, ih, List.map_cons]

theorem renameAttrList_eq (p : Pos) (z : Nat) (s : String) (l : List Ast) : renameAttrList p z s l = l.map (Ast.renameAttr p z s) := by
  induction l with
  | nil => rfl
  | cons x xs ih => rw [renameAttrList, ih, List.map_cons]

variable {p : Pos} {z : Nat} {s : String}

theorem rename_edit (p : Pos) (s : String) :
    StrEdit (Ast.rename p s) (fun n => isLoadName n && n.pos? == some p) "id" s where
  node k q ns vs := by
    rw [Ast.rename, renameList_eq, setId_eq]
    exact (apply_ite (Ast.node k q ns) _ _ _).symm
  list l := by rw [Ast.rename, renameList_eq]
  str _ := rfl
  int _ := rfl
  none := rfl

theorem renameAttr_edit (p : Pos) (z : Nat) (s : String) :
    StrEdit (Ast.renameAttr p z s) (fun n => n.kind == "Attribute" && n.pos? == some p && n.size == z) "attr" s where
  node k q ns vs := by
    rw [Ast.renameAttr, renameAttrList_eq, setAttr_eq]
    exact (apply_ite (Ast.node k q ns) _ _ _).symm
  list l := by rw [Ast.renameAttr, renameAttrList_eq]
  str _ := rfl
  int _ := rfl
  none := rfl

theorem rename_laws (p : Pos) (s : String) : TLaws (Ast.rename p s) (renGood p) (fun q => q ≠ p) :=
  (rename_edit p s).laws (.inl rfl) fun _ n q hq hne => by simp [hq, hne]

theorem renameAttr_laws (p : Pos) (z : Nat) (s : String) :
    TLaws (Ast.renameAttr p z s)
      (fun n k => !(n.kind == "Attribute" && n.pos? == some p && n.size == z && k == "attr")) (fun _ => True) :=
  (renameAttr_edit p z s).laws (.inr rfl) fun h => nomatch h

theorem renameList_size : ∀ (l : List Ast), sizeList (renameList p s l) = sizeList l :=
  fun l => renameList_eq p s l ▸ (rename_edit p s).size_map l

theorem renameAttrList_size : ∀ (l : List Ast), sizeList (renameAttrList p z s l) = sizeList l :=
  fun l => renameAttrList_eq p z s l ▸ (renameAttr_edit p z s).size_map l

theorem renameList_lastLoc : ∀ (l : List Ast) (acc : Pos), lastLocList (renameList p s l) acc = lastLocList l acc :=
  fun l acc => renameList_eq p s l ▸ (rename_edit p s).lastLoc_map l acc

theorem renameAttrList_lastLoc : ∀ (l : List Ast) (acc : Pos), lastLocList (renameAttrList p z s l) acc = lastLocList l acc :=
  fun l acc => renameAttrList_eq p z s l ▸ (renameAttr_edit p z s).lastLoc_map l acc

theorem Instr.ren_eq (p : Pos) (s : String) : Instr.ren p s = Instr.mapKR (Ast.rename p s) (idRho p s) := by
  funext i; cases i <;> rfl

theorem Instr.renA_eq (p : Pos) (z : Nat) (s : String) :
    Instr.renA p z s = Instr.mapKR (Ast.renameAttr p z s) (fun _ id => id) := by
  funext i; cases i <;> rfl

theorem attrMapR_idRho (p : Pos) (s : String) : attrMapR (idRho p s) = attrRen p s := rfl

theorem mapAttrs_id (st : St) : st.mapAttrs (attrMapR fun _ id => id) = st := by
  cases st
  exact congrArg (St.mk _ _ _ _ _ _ _ _) (List.map_id _)

theorem map_mapAttrs_id (r : M St) : r.map (St.mapAttrs (attrMapR fun _ id => id)) = r := by
  cases r with
  | error e => rfl
  | ok st => exact congrArg Except.ok (mapAttrs_id st)

/-- `visit_Name` records the `.flow` attribute of a read and does nothing else -/
theorem compile_name {n : Ast} (hk : n.kind = "Name") :
    compile n = (n.get "ctx").map fun _ => if isLoadName n then [.flowAttr n.pos? (nameId n) .cur] else [] := by
  unfold compile
  simp only [hk, compileName, Ast.get, isLoadName, beq_self_eq_true, Bool.true_and]
  cases n.field? "ctx" with
  | none => rfl
  | some c =>
    show (match c with | .str "Load" => _ | _ => _) = _
    split
    · rfl
    · split
      · next hne _ h => exact absurd (Option.some.inj h) hne
      · rfl

theorem tgtQ_spec {n : Ast} {prog : Prog} (h : tgtQ p n = true) (hp : compile n = .ok prog) :
    TgtOK (· ≠ p) prog ∧ (∀ q id f, .flowAttr (some q) id f ∈ prog → n.kind = "Name" ∨ q ≠ p) ∧
    (n.kind = "Name" → n.pos? = some p → ∃ x, n.field? "id" = some (.str x)) := by
  simp only [tgtQ, hp, Bool.and_eq_true, List.all_eq_true, Bool.or_eq_true, Bool.not_eq_true'] at h
  refine ⟨fun i hi b hb hk => ?_, fun q id f hi => ?_, fun hk hpos => ?_⟩
  · simpa [hb, hk] using (h.1 i hi).1
  · simpa using (h.1 _ hi).2
  · have := h.2
    simp only [hk, hpos, beq_self_eq_true, Bool.and_self, Bool.true_eq_false, false_or] at this
    split at this
    · exact ⟨_, ‹_›⟩
    · cases this

/-- NO VISIT METHOD DEPENDS ON THE ID OF A READ: on `tgtQ`-trees the reading half commutes with the renaming -/
theorem compRel_tgtQ (p : Pos) (s : String) :
    CompRel false (Ast.rename p s) (Instr.mapKR (Ast.rename p s) (idRho p s)) (fun _ => True) (tgtQ p) := by
  refine .of_ok fun n prog hn hall hp => ⟨?_, fun _ _ => trivial⟩
  have E := rename_edit p s
  obtain ⟨ht, hattr, hid⟩ := tgtQ_spec (all_here hn hall) hp
  by_cases hk : n.kind = "Name"
  · -- `visit_Name`, computed on both sides: the renamed read is recorded under the new id
    rw [compile_name hk, Ast.get] at hp
    rw [compile_name ((E.kind n).trans hk), Ast.get, E.isLoadName (by decide), E.pos, E.field,
      if_neg (c := _ ∧ _) (by simp)]
    cases hc : n.field? "ctx" with
    | none => rw [hc] at hp; cases hp
    | some c =>
      rw [hc] at hp
      obtain rfl := Except.ok.inj hp
      cases hl : isLoadName n with
      | false => rfl
      | true =>
        have : nameId (n.rename p s) = idRho p s n.pos? (nameId n) := by
          by_cases hpos : n.pos? = some p
          · obtain ⟨x, hx⟩ := hid hk hpos
            rw [E.nameId_hit (by simp [hl, hpos]) hx, idRho, if_pos hpos]
          · rw [E.nameId_eq (by simp [hpos]), idRho, if_neg hpos]
        rw [this]; rfl
  · -- every other visit method: `compile_trans`; no `.flow` attribute is recorded at `p`
    rw [compile_trans (rename_laws p s) hp ht fun h => absurd h hk]
    refine congrArg _ (List.map_congr_left fun i hi => ?_)
    cases i with
    | flowAttr q id f =>
      cases q with
      | none => rfl
      | some q =>
        have : q ≠ p := (hattr q id f hi).resolve_left hk
        simp [Instr.mapK, Instr.mapKR, idRho, this]
    | _ => rfl

/-- NO VISIT METHOD READS `Attribute.attr`: the reading half commutes with the renaming at EVERY node -/
theorem compRel_renameAttr (p : Pos) (z : Nat) (s : String) :
    CompRel false (Ast.renameAttr p z s) (Instr.mapKR (Ast.renameAttr p z s) fun _ id => id) (fun _ => True)
      (fun _ => true) :=
  .of_ok fun _ _ _ _ hp =>
    ⟨compile_trans (renameAttr_laws p z s) hp (fun _ _ _ _ _ => trivial) (fun _ => by simp), fun _ _ => trivial⟩

theorem compRel_renQ (p : Pos) (s : String) :
    CompRel true (Ast.rename p s) (Instr.mapKR (Ast.rename p s) (idRho p s)) (fun _ => True) (renQ p s) :=
  fun _ hn hq => Lift.of_map (Instr.ren_eq p s ▸ renQ_spec (all_here hn hq)) fun _ => ⟨rfl, fun _ _ => trivial⟩

theorem compRel_renAQ (p : Pos) (z : Nat) (s : String) :
    CompRel true (Ast.renameAttr p z s) (Instr.mapKR (Ast.renameAttr p z s) fun _ id => id) (fun _ => True) (renAQ p z s) :=
  fun _ hn hq => Lift.of_map (Instr.renA_eq p z s ▸ renAQ_spec (all_here hn hq)) fun _ => ⟨rfl, fun _ _ => trivial⟩

end SuppModel.Extract
