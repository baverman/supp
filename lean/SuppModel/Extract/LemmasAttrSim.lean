/-
  Extract family — the interpreter never reads the recorded `.flow` attributes: the run on a transformed tree whose
  visit methods produce the `Instr.mapKR T ρ`-images of the original actions is the original run with the recorded ids
  mapped by `ρ` (`extract_mapKR`).
-/
import SuppModel.Extract.Trans
import SuppModel.Extract.LemmasExecSim

namespace SuppModel.Extract
open SuppModel.Flow

section
variable (κ : Option Pos × String × Nat → Option Pos × String × Nat)

theorem mapAttrs_toGraph (κ : Option Pos × String × Nat → Option Pos × String × Nat) (st : St) (b : List String) :
    (st.mapAttrs κ).toGraph b = st.toGraph b := rfl

theorem mapAttrs_addName (st : St) (f : Nat) (b : Binding) :
    (st.mapAttrs κ).addName f b = (st.addName f b).mapAttrs κ := by
  simp only [St.addName]
  rw [apply_ite (St.mapAttrs κ), apply_ite (St.mapAttrs κ)]
  rfl

theorem mapAttrs_resolveStars (mods : List (String × List String)) (st : St) :
    resolveStars mods (st.mapAttrs κ) = (resolveStars mods st).mapAttrs κ := by
  have hstar (st : St) (x : Star) : resolveStar mods (st.mapAttrs κ) x = (resolveStar mods st x).mapAttrs κ := by
    unfold resolveStar
    split
    · rfl
    · refine List.foldl_hom (St.mapAttrs κ) fun st nm => ?_
      split
      · rfl
      · exact mapAttrs_addName κ st _ _
  exact congrArg (fun st : St => { st with stars := [] }) (List.foldl_hom (St.mapAttrs κ) hstar)

end

variable {T : Ast → Ast} {ρ : Option Pos → String → String}

abbrev AttrRel (ρ : Option Pos → String → String) (st st' : St) : Prop := st' = st.mapAttrs (attrMapR ρ)

theorem stepRel_mapKR (lines : List Text.Str) (T : Ast → Ast) (ρ : Option Pos → String → String) :
    StepRel lines lines (AttrRel ρ) T (Instr.mapKR T ρ) (fun _ => True) where
  visit := fun _ => ⟨rfl, trivial⟩
  kids := fun i => by cases i <;> rfl
  pre := by
    rintro i env st _ - rfl
    have hres (f : FlowRef) : f.resolve env (st.mapAttrs (attrMapR ρ)) = f.resolve env st := by cases f <;> rfl
    cases i with
    | addName f b => simp only [Instr.mapKR, Instr.pre, hres, mapAttrs_addName]
    | flowAttr q id f => simp only [Instr.mapKR, Instr.pre, hres]; rfl
    | scopeBody cls self register args body =>
      have e : (st.mapAttrs (attrMapR ρ)).newScope (if cls then .cls else .func) =
          ((st.newScope (if cls then .cls else .func)).1.mapAttrs (attrMapR ρ), (st.newScope (if cls then .cls else .func)).2) := rfl
      simp only [Instr.mapKR, Instr.pre]
      rw [e, List.foldl_hom (St.mapAttrs (attrMapR ρ)) fun st a => mapAttrs_addName _ st _ a]
      cases register
      · rfl
      · simp only [if_true, mapAttrs_addName]; rfl
    | _ => rfl
  post := by
    rintro i env st _ r _ - rfl rfl
    cases i <;> exact ⟨rfl, rfl⟩

theorem extract_mapKR {good : Ast → String → Bool} {okPos : Pos → Prop} (L : TLaws T good okPos) {s : Bool}
    {Q : Ast → Bool} (hC : CompRel s T (Instr.mapKR T ρ) (fun _ => True) Q)
    (lines : List Text.Str) (mods : List (String × List String)) (t : Ast) (ht : t.all Q = true) :
    Lift s (AttrRel ρ) (extract lines mods t) (extract lines mods (T t)) :=
  extract_lift (stepRel_mapKR lines T ρ) L.isNode L.size L.children hC rfl mods
    (fun st _ h => h ▸ mapAttrs_resolveStars _ mods st) t ht

end SuppModel.Extract
