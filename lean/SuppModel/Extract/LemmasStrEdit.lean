/-
  Extract family — transformations that replace the string held by one field (`key`) of the nodes picked by `hit` and
  change nothing else (`StrEdit`; `Ast.rename` and `Ast.renameAttr` are the two instances) satisfy `TLaws`.
-/
import SuppModel.Extract.Trans
import SuppModel.Extract.LemmasHom

namespace SuppModel.Extract
open SuppModel.Flow

def strTo (s : String) : Ast → Ast
  | .str _ => .str s
  | v => v

/-- `setId` / `setAttr` for any field -/
def setStr (key s : String) : List String → List Ast → List Ast
  | n :: ns, v :: vs => if n = key then strTo s v :: vs else v :: setStr key s ns vs
  | _, vs => vs

section
variable {key s : String}

/-- the induction principle of `setStr`, for a relation between the edited list and the original -/
theorem setStr_rel (C : List Ast → List Ast → Prop) (hrefl : ∀ vs, C vs vs)
    (hstr : ∀ a vs, C (.str s :: vs) (.str a :: vs)) (hcons : ∀ v ws vs, C ws vs → C (v :: ws) (v :: vs)) (ns vs) :
    C (setStr key s ns vs) vs := by
  fun_induction setStr key s ns vs with
  | case1 ns v vs =>
    cases v with
    | str a => exact hstr a vs
    | _ => exact hrefl _
  | case2 n ns v vs hn ih => exact hcons _ _ _ ih
  | case3 => exact hrefl _

theorem setStr_size : ∀ ns vs, sizeList (setStr key s ns vs) = sizeList vs :=
  setStr_rel (fun ws vs => sizeList ws = sizeList vs) (fun _ => rfl) (fun _ _ => rfl)
    fun v _ _ h => congrArg (v.size + ·) h

theorem setStr_children : ∀ ns vs, (setStr key s ns vs).flatMap childrenOfVal = vs.flatMap childrenOfVal :=
  setStr_rel (fun ws vs => ws.flatMap childrenOfVal = vs.flatMap childrenOfVal) (fun _ => rfl) (fun _ _ => rfl)
    fun v _ _ h => congrArg (childrenOfVal v ++ ·) h

theorem setStr_lastLoc : ∀ ns vs, ∀ acc, lastLocList (setStr key s ns vs) acc = lastLocList vs acc :=
  setStr_rel (fun ws vs => ∀ acc, lastLocList ws acc = lastLocList vs acc) (fun _ _ => rfl) (fun _ _ _ => rfl)
    fun v _ _ h acc => h (lastLoc v acc)

/-- the first value found under `key` is the one replaced -/
theorem lookupField_setStr (k : String) : ∀ ns vs,
    lookupField k ns (setStr key s ns vs) = if key = k then (lookupField k ns vs).map (strTo s) else lookupField k ns vs
  | [], _ => (ite_self _).symm
  | _ :: _, [] => (ite_self _).symm
  | n :: ns, v :: vs => by
    simp only [setStr]
    split
    · subst n
      simp only [lookupField]
      split <;> rfl
    · simp only [lookupField]
      split
      · subst n; rw [if_neg (Ne.symm ‹_›)]
      · exact lookupField_setStr k ns vs

end

/-- `T` replaces by `s` the string under `key` in the nodes with `hit`, and is the identity otherwise -/
structure StrEdit (T : Ast → Ast) (hit : Ast → Bool) (key s : String) : Prop where
  node : ∀ k q ns vs, T (.node k q ns vs) =
    .node k q ns (if hit (.node k q ns vs) then setStr key s ns (vs.map T) else vs.map T)
  list : ∀ l, T (.list l) = .list (l.map T)
  str : ∀ x, T (.str x) = .str x
  int : ∀ i, T (.int i) = .int i
  none : T .none = .none

section
variable {T : Ast → Ast} {hit : Ast → Bool} {key s : String}

theorem StrEdit.isNode (E : StrEdit T hit key s) (n : Ast) : (T n).isNode = n.isNode := by
  cases n <;> simp only [E.node, E.list, E.str, E.int, E.none, Ast.isNode]

theorem StrEdit.kind (E : StrEdit T hit key s) (n : Ast) : (T n).kind = n.kind := by
  cases n <;> simp only [E.node, E.list, E.str, E.int, E.none, Ast.kind]

theorem StrEdit.pos (E : StrEdit T hit key s) (n : Ast) : (T n).pos? = n.pos? := by
  cases n <;> simp only [E.node, E.list, E.str, E.int, E.none, Ast.pos?]

mutual
theorem StrEdit.size (E : StrEdit T hit key s) : ∀ n, (T n).size = n.size
  | .node k q ns vs => by
    rw [E.node, Ast.size, Ast.size, apply_ite sizeList, setStr_size, ite_self, E.size_map vs]
  | .list l => by rw [E.list, Ast.size, Ast.size, E.size_map l]
  | .str _ => by rw [E.str]
  | .int _ => by rw [E.int]
  | .none => by rw [E.none]
theorem StrEdit.size_map (E : StrEdit T hit key s) : ∀ l, sizeList (l.map T) = sizeList l
  | [] => rfl
  | x :: xs => by rw [List.map_cons, sizeList, sizeList, E.size x, E.size_map xs]
end

mutual
theorem StrEdit.lastLoc (E : StrEdit T hit key s) : ∀ n acc, lastLoc (T n) acc = lastLoc n acc
  | .node k q ns vs, acc => by
    rw [E.node]
    show lastLocList _ _ = lastLocList vs _
    rw [apply_ite (lastLocList · _), setStr_lastLoc, ite_self, E.lastLoc_map vs]
  | .list l, acc => by rw [E.list]; exact E.lastLoc_map l acc
  | .str _, _ => by rw [E.str]
  | .int _, _ => by rw [E.int]
  | .none, _ => by rw [E.none]
theorem StrEdit.lastLoc_map (E : StrEdit T hit key s) : ∀ l acc, lastLocList (l.map T) acc = lastLocList l acc
  | [], _ => rfl
  | x :: xs, acc => by rw [List.map_cons, lastLocList, lastLocList, E.lastLoc x, E.lastLoc_map xs]
end

theorem StrEdit.childrenOfVal (E : StrEdit T hit key s) (v : Ast) :
    childrenOfVal (T v) = (Extract.childrenOfVal v).map T := by
  cases v with
  | node k q ns vs => rw [Extract.childrenOfVal, List.map_singleton, E.node]; rfl
  | list l =>
    rw [E.list, Extract.childrenOfVal, Extract.childrenOfVal, List.filter_map]
    exact congrArg _ (List.filter_congr fun x _ => E.isNode x)
  | _ => simp only [E.str, E.int, E.none]; rfl

theorem StrEdit.children (E : StrEdit T hit key s) (n : Ast) : (T n).children = n.children.map T := by
  cases n with
  | node k q ns vs =>
    rw [E.node, Ast.children, Ast.children, Ast.vals, Ast.vals, apply_ite (List.flatMap Extract.childrenOfVal),
      setStr_children, ite_self, List.flatMap_map, List.map_flatMap]
    simp only [E.childrenOfVal]
  | _ => simp only [E.list, E.str, E.int, E.none]; rfl

theorem StrEdit.field (E : StrEdit T hit key s) (n : Ast) (k : String) :
    (T n).field? k = if hit n = true ∧ key = k then (n.field? k).map (strTo s ∘ T) else (n.field? k).map T := by
  cases n with
  | node kd q ns vs =>
    rw [E.node]
    simp only [Ast.field?, Ast.fieldNames, Ast.vals]
    by_cases hh : hit (.node kd q ns vs) = true <;> by_cases hk : key = k <;>
      simp [hh, hk, lookupField_setStr, lookupField_map]
  | _ => simp [E.list, E.str, E.int, E.none, Ast.field?, Ast.fieldNames, lookupField]

/-- `visit_Name` sees the same context (`key` is not `ctx`) -/
theorem StrEdit.isLoadName (E : StrEdit T hit key s) (hkey : key ≠ "ctx") (n : Ast) : isLoadName (T n) = isLoadName n := by
  simp only [Extract.isLoadName, E.kind, E.field, hkey, and_false, if_false]
  cases n.field? "ctx" with
  | none => rfl
  | some c => cases c <;> simp only [Option.map_some, E.str, E.node, E.list, E.int, E.none]

theorem StrEdit.nameId_hit (E : StrEdit T hit "id" s) {n : Ast} {x : String} (hh : hit n = true)
    (hx : n.field? "id" = some (.str x)) : nameId (T n) = s := by
  simp [nameId, E.field, hh, hx, E.str, strTo]

theorem StrEdit.nameId_eq (E : StrEdit T hit key s) {n : Ast} (h : ¬(hit n = true ∧ key = "id")) :
    nameId (T n) = nameId n := by
  rw [nameId, E.field, if_neg h, nameId]
  cases n.field? "id" with
  | none => rfl
  | some v => cases v <;> simp only [Option.map_some, E.str, E.node, E.list, E.int, E.none]

/-- the laws hold with `good n k` = "`k` is not the replaced field of `n`", for a `key` among those `TLaws` leaves
    open, provided an `id` is replaced at no `okPos` position -/
theorem StrEdit.laws (E : StrEdit T hit key s) {okPos : Pos → Prop} (hkey : key = "id" ∨ key = "attr")
    (hid : key = "id" → ∀ n q, n.pos? = some q → okPos q → hit n = false) :
    TLaws T (fun n k => !(hit n && k == key)) okPos where
  isNode := E.isNode
  kind := E.kind
  pos := E.pos
  size := E.size
  children := E.children
  lastLoc := E.lastLoc
  field_some := fun n k v hv hg => by
    have : ¬(hit n = true ∧ key = k) := fun h => by simp [h.1, h.2] at hg
    rw [E.field, if_neg this, hv]; rfl
  field_none := fun n k hv => by rw [E.field, hv]; simp
  str := E.str
  int := E.int
  none := E.none
  list := E.list
  lit := fun n k h1 h2 => by rcases hkey with rfl | rfl <;> simp [h1, h2]
  idgood := fun n q hq hok => by
    by_cases hk : key = "id"
    · simp [hid hk n q hq hok]
    · simp [Ne.symm hk]

end

end SuppModel.Extract
