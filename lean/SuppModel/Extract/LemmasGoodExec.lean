/-
  Extract family — `Good`, part 2: the interpreter keeps it.  The extra ingredient is what the registers of a
  visit method can hold: the id of an EXISTING flow of the CURRENT scope (`EnvOK`); a visit adds flows, never
  changes the scope of one, and returns with `self.flow` in the scope it started in (`RecOK`).
-/
import SuppModel.Extract.LemmasGood

namespace SuppModel.Extract
open SuppModel.Flow

def EnvOK (env : Env) (st : St) : Prop := ∀ kv ∈ env, FIn st.fsk kv.2 (scopeOf st.fsk st.cur)

structure Step (st st' : St) : Prop where
  good : Good st'
  mono : MonoF st.fsk st'.fsk
  scope : scopeOf st'.fsk st'.cur = scopeOf st.fsk st.cur

def RecOK (rec : Rec) : Prop := ∀ {c st st'}, rec c st = .ok st' → Good st → Step st st'

theorem Step.refl {st : St} (h : Good st) : Step st st := ⟨h, MonoF.refl _, rfl⟩

theorem Step.trans {a b c : St} (h1 : Step a b) (h2 : Step b c) : Step a c :=
  ⟨h2.good, h1.mono.trans h2.mono, h2.scope.trans h1.scope⟩

theorem curIn {st : St} (h : Good st) : FIn st.fsk st.cur (scopeOf st.fsk st.cur) := fin_of_lt h.struct.cur

theorem EnvOK.step {env : Env} {st st' : St} (he : EnvOK env st) (h : Step st st') : EnvOK env st' := by
  intro kv hkv
  rw [h.scope]
  exact FIn.mono h.mono (he kv hkv)

theorem env_get_ok {env : Env} {st : St} (he : EnvOK env st) (h : Good st) (r : Nat) :
    FIn st.fsk (env.get st.cur r) (scopeOf st.fsk st.cur) := by
  induction env with
  | nil => exact curIn h
  | cons kv env ih =>
    obtain ⟨k, v⟩ := kv
    simp only [Env.get]
    split
    · exact he (k, v) List.mem_cons_self
    · exact ih (fun kv hkv => he kv (List.mem_cons_of_mem _ hkv))

theorem EnvOK.set {env : Env} {st : St} (he : EnvOK env st) {d v : Nat} (hv : FIn st.fsk v (scopeOf st.fsk st.cur)) :
    EnvOK (env.set d v) st := by
  intro kv hkv
  simp only [Env.set, List.mem_cons] at hkv
  rcases hkv with rfl | hkv
  · exact hv
  · exact he kv hkv

theorem Step.keepCur {st st' : St} (hg : Good st) (g : Good st') (m : MonoF st.fsk st'.fsk) (c : st'.cur = st.cur) :
    Step st st' :=
  ⟨g, m, by rw [c]; exact scopeOf_mono m hg.struct.cur⟩

theorem Step.same {st st' : St} (h : Good st' ∧ st'.fsk = st.fsk ∧ st'.cur = st.cur) : Step st st' :=
  ⟨h.1, by rw [h.2.1]; exact MonoF.refl _, by rw [h.2.1, h.2.2]⟩

/-- back to `self.flow` after an excursion -/
theorem Step.restore {st st' : St} (hg : Good st) (g : Good st') (m : MonoF st.fsk st'.fsk) :
    Step st { st' with cur := st.cur } :=
  .keepCur hg (g.setCur (FIn.mono m (curIn hg)).lt) m rfl

/-- the end of an action that leaves the registers alone -/
theorem pure_step {env : Env} {st st' : St} {r : Env × St} (h : (pure (env, st') : M _) = .ok r) (s : Step st st')
    (he : EnvOK env st) : Step st r.2 ∧ EnvOK r.1 r.2 :=
  Except.ok.inj h ▸ ⟨s, he.step s⟩

/-- a step that only records something (`.flow` attributes, `_attr_assigns`, `_imports`, `_star_imports`) -/
theorem step_record {st : St} (hg : Good st) (ss aa im fa) :
    Step st { st with stars := ss, attrAssigns := aa, imports := im, flowAttrs := fa } :=
  .same ⟨hg.scopesSame (hg.basic.congr rfl rfl) rfl rfl rfl rfl rfl, rfl, rfl⟩

theorem visitAll_step {rec : Rec} (hrec : RecOK rec) (cs : List Ast) {st st' : St} (h : visitAll rec cs st = .ok st')
    (hg : Good st) : Step st st' :=
  visitAll_preserves (P := Step st) (fun h1 s => s.trans (hrec h1 s.good)) cs h (.refl hg)

theorem visitInFlow_step {rec : Rec} (hrec : RecOK rec) (cs : List Ast) (flow S : Nat) {st : St} {r : St × Nat}
    (h : visitInFlow rec cs flow st = .ok r) (hg : Good st) (hf : FIn st.fsk flow S) :
    Step st r.1 ∧ FIn r.1.fsk r.2 S := by
  simp only [visitInFlow, bind_ok_iff, pure_ok_iff] at h
  obtain ⟨st1, h1, rfl⟩ := h
  have s1 : Step { st with cur := flow } st1 := visitAll_step hrec cs h1 (hg.setCur hf.lt)
  refine ⟨.restore hg s1.good s1.mono, ?_⟩
  have e : scopeOf st1.fsk st1.cur = S := s1.scope.trans hf.scopeOf
  exact e ▸ curIn s1.good

theorem foldl_addName_step (f : Nat) (args : List Binding) :
    ∀ {st}, Good st → Step st (args.foldl (fun st a => st.addName f a) st) := by
  induction args with
  | nil => exact Step.refl
  | cons a as ih =>
    intro st hg
    have s := Step.same (hg.addName f a)
    exact s.trans (ih s.good)

/-- the optional registration of a new scope as a name of `cur` -/
theorem Step.register {st st1 : St} (s : Step st st1) (b : Bool) (f : Nat) (x : Binding) :
    Step st (if b then st1.addName f x else st1) := by
  cases b
  · exact s
  · exact s.trans (.same (s.good.addName f x))

theorem execInstr_step (lines : List Text.Str) {rec : Rec} (hrec : RecOK rec) (i : Instr)
    {env st r} (h : execInstr lines rec i env st = .ok r) (hg : Good st) (he : EnvOK env st) :
    Step st r.2 ∧ EnvOK r.1 r.2 := by
  cases i with
  | visit c =>
    obtain ⟨st1, h1, h2⟩ := (bind_ok_iff _ _ _).mp h
    exact pure_step h2 (hrec h1 hg) he
  | visitIn cs f dst =>
    obtain ⟨r1, h1, h2⟩ := (bind_ok_iff _ _ _).mp h
    cases h2
    obtain ⟨s, f1⟩ := visitInFlow_step hrec cs _ _ h1 hg (env_get_ok he hg f)
    refine ⟨s, ?_⟩
    cases dst with
    | none => exact he.step s
    | some d => exact (he.step s).set (s.scope ▸ f1)
  | saveCur d => exact Except.ok.inj h ▸ ⟨Step.refl hg, he.set (curIn hg)⟩
  | setCur s =>
    have hv := env_get_ok he hg s
    exact pure_step h ⟨hg.setCur hv.lt, MonoF.refl _, hv.scopeOf⟩ he
  | makeFlow d ps =>
    cases h
    obtain ⟨g1, f1, c1, id1⟩ := hg.newFlow (ps := (ps.map (env.get st.cur)).map .flow) hg.struct.curScope_lt
      (List.forall_mem_map.mpr (List.forall_mem_map.mpr fun q _ => env_get_ok he hg q))
    simp only [St.makeFlow, curScope_eq]
    have s := Step.keepCur hg g1 (f1 ▸ monoF_append _ _) c1
    refine ⟨s, (he.step s).set ?_⟩
    rw [s.scope, id1, f1]
    exact fin_newFlow _ _ _
  | setFinal => exact pure_step h (Step.same hg.setFinal) he
  | loop a b =>
    have ha := env_get_ok he hg a
    obtain ⟨g1, m1, c1⟩ := hg.addLoop (hd := env.get st.cur a) (by rw [ha.scopeOf]; exact env_get_ok he hg b)
    exact pure_step h (.keepCur hg g1 m1 c1) he
  | addName f b => exact pure_step h (Step.same (hg.addName _ _)) he
  | compName f b => exact pure_step h (Step.same (hg.compName _ _)) he
  | flowAttr p id f => exact pure_step h (step_record hg _ _ _ _) he
  | attrAssign p => exact pure_step h (step_record hg _ _ _ _) he
  | globalDecl ns => exact pure_step h (Step.same ⟨hg.globalDecl ns, rfl, rfl⟩) he
  | nonlocalDecl ns => exact pure_step h (Step.same ⟨hg.nonlocalDecl ns, rfl, rfl⟩) he
  | addReturn => exact pure_step h (Step.same ⟨hg.addReturn, rfl, rfl⟩) he
  | addImport x => exact pure_step h (step_record hg _ _ _ _) he
  | addStar a b c => exact pure_step h (step_record hg _ _ _ _) he
  | scopeBody cls self register args body =>
    obtain ⟨r1, h1, h2⟩ := (bind_ok_iff _ _ _).mp h
    obtain ⟨g0, m0, c0, fin0⟩ := hg.newScope (k := if cls then .cls else .func) (by cases cls; exact .inl rfl; exact .inr rfl)
    generalize st.newScope (if cls then .cls else .func) = ns at h1 g0 m0 c0 fin0
    have s2 := (foldl_addName_step ns.2.2 args g0).register register st.cur (self.resolve lines)
    obtain ⟨s3, _⟩ := visitInFlow_step hrec body _ _ h1 s2.good (FIn.mono s2.mono fin0)
    have s := ((Step.keepCur hg g0 m0 c0).trans s2).trans s3
    exact pure_step h2 (.restore hg s.good s.mono) he

theorem exec_step (lines : List Text.Str) {rec : Rec} (hrec : RecOK rec) (prog : Prog) {env st st'}
    (h : exec lines rec prog env st = .ok st') (hg : Good st) (he : EnvOK env st) : Step st st' := by
  induction prog generalizing env st with
  | nil => cases h; exact .refl hg
  | cons i is ih =>
    obtain ⟨r, h1, h2⟩ := (bind_ok_iff _ _ _).mp h
    obtain ⟨s1, e1⟩ := execInstr_step lines hrec i h1 hg he
    exact s1.trans (ih h2 s1.good e1)

theorem visit_recOK (lines : List Text.Str) : ∀ fuel, RecOK (visit lines fuel) := by
  intro fuel
  induction fuel with
  | zero => intro c st st' h; cases h
  | succ fuel ih =>
    intro c st st' h hg
    simp only [visit, step] at h
    split at h
    · simp only [bind_ok_iff] at h
      obtain ⟨prog, _, h2⟩ := h
      exact exec_step lines ih prog h2 hg (List.forall_mem_nil _)
    · cases h

theorem resolveStars_good (mods : List (String × List String)) (st : St) (hg : Good st) : Good (resolveStars mods st) :=
  resolveStars_keeps (fun _ f b h => (h.addName f b).1)
    (fun _ h => ⟨h.basic.congr rfl rfl, namesOK_same h.names rfl rfl, h.struct⟩) mods st hg

theorem extract_good (lines : List Text.Str) (mods : List (String × List String)) (t : Ast) (st : St)
    (h : extract lines mods t = .ok st) : Good st := by
  unfold extract at h
  split at h
  · simp only [bind_ok_iff, pure_ok_iff] at h
    obtain ⟨st1, h1, rfl⟩ := h
    exact resolveStars_good mods st1
      (exec_step lines (visit_recOK lines t.size) _ h1 good_init (List.forall_mem_nil _)).good
  · cases h

end SuppModel.Extract
