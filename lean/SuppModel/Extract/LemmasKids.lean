/-
  Extract family — the nodes a program visits (`progKids`), and: `exec` fails only when a visit of one of them
  fails (`exec_ok`).
-/
import SuppModel.Extract.LemmasAst

namespace SuppModel.Extract
open SuppModel.Flow

@[simp] theorem progKids_nil : progKids [] = [] := rfl
@[simp] theorem progKids_cons (i : Instr) (p : Prog) : progKids (i :: p) = i.kids ++ progKids p := by
  simp [progKids]
@[simp] theorem progKids_append (a b : Prog) : progKids (a ++ b) = progKids a ++ progKids b := by
  simp [progKids]
@[simp] theorem progKids_map_visit (l : List Ast) : progKids (l.map Instr.visit) = l := by
  induction l with
  | nil => rfl
  | cons x xs ih => simp [Instr.kids, ih]

theorem progKids_flatMap_nil {α} (f : α → Prog) (l : List α) (h : ∀ a, progKids (f a) = []) :
    progKids (l.flatMap f) = [] := by
  induction l with
  | nil => rfl
  | cons x xs ih => simp [List.flatMap_cons, h, ih]

theorem progKids_generic (n : Ast) : progKids (generic n) = n.children := by simp [generic]

/-! ### an action as step in, visits, step out -/

/-- the state in which an action visits its nodes; for an action that visits none, the state it leaves -/
def Instr.pre (lines : List Text.Str) (i : Instr) (env : Env) (st : St) : St :=
  match i with
  | .visit _ | .saveCur _ => st
  | .visitIn _ f _ => { st with cur := env.get st.cur f }
  | .setCur s => { st with cur := env.get st.cur s }
  | .makeFlow _ ps => (st.makeFlow (ps.map (env.get st.cur))).1
  | .setFinal => st.setFinal
  | .loop h t => st.addLoop (env.get st.cur h) (env.get st.cur t)
  | .addName f b => st.addName (f.resolve env st) (b.resolve lines)
  | .compName f b => st.compName (env.get st.cur f) b
  | .flowAttr p id f => { st with flowAttrs := (p, id, f.resolve env st) :: st.flowAttrs }
  | .attrAssign p => { st with attrAssigns := (st.curScope, p) :: st.attrAssigns }
  | .globalDecl names => st.globalDecl names
  | .nonlocalDecl names => st.nonlocalDecl names
  | .addReturn => st.addReturn
  | .addImport n => { st with imports := n :: st.imports }
  | .addStar loc start m =>
    let decl := Text.declaredAt Text.Generated.importFromSite lines ['*'] (searchStart lines start.fallback start.alias)
    { st with stars := { loc := loc, decl := decl, module := m, flow := st.cur } :: st.stars }
  | .scopeBody cls self register args _ =>
    let r := st.newScope (if cls then .cls else .func)
    let st1 := args.foldl (fun st a => st.addName r.2.2 a) r.1
    { (if register then st1.addName st.cur (self.resolve lines) else st1) with cur := r.2.2 }

/-- registers and state after the visits, which ended in `r` -/
def Instr.post (i : Instr) (env : Env) (st r : St) : Env × St :=
  match i with
  | .visitIn _ _ dst => (match dst with | some d => env.set d r.cur | none => env, { r with cur := st.cur })
  | .scopeBody .. => (env, { r with cur := st.cur })
  | .saveCur d => (env.set d st.cur, r)
  | .makeFlow d ps => (env.set d (st.makeFlow (ps.map (env.get st.cur))).2, r)
  | _ => (env, r)

theorem execInstr_eq (lines : List Text.Str) (rec : Rec) (i : Instr) (env : Env) (st : St) :
    execInstr lines rec i env st = (visitAll rec i.kids (i.pre lines env st)).map (i.post env st) := by
  cases i with
  | visit c => simp only [execInstr, Instr.kids, visitAll, Instr.pre]; cases rec c st <;> rfl
  | visitIn cs f dst => simp only [execInstr, visitInFlow, Instr.kids, Instr.pre]; cases visitAll rec cs _ <;> rfl
  | scopeBody cls self register args body =>
    simp only [execInstr, visitInFlow, Instr.kids, Instr.pre]; cases visitAll rec body _ <;> rfl
  | _ => rfl

theorem execInstr_ok_iff {lines : List Text.Str} {rec : Rec} {i : Instr} {env : Env} {st : St} {r : Env × St} :
    execInstr lines rec i env st = .ok r ↔ ∃ st1, visitAll rec i.kids (i.pre lines env st) = .ok st1 ∧ i.post env st st1 = r := by
  rw [execInstr_eq]
  cases visitAll rec i.kids (i.pre lines env st) with
  | ok a => exact ⟨fun h => ⟨a, rfl, Except.ok.inj h⟩, fun ⟨_, h1, h2⟩ => by cases h1; exact congrArg _ h2⟩
  | error e => exact ⟨nofun, fun ⟨_, h1, _⟩ => nomatch h1⟩

theorem visitAll_ok (rec : Rec) (cs : List Ast) (h : ∀ c ∈ cs, ∀ st, ∃ st', rec c st = .ok st') :
    ∀ st, ∃ st', visitAll rec cs st = .ok st' := by
  induction cs with
  | nil => intro st; exact ⟨st, rfl⟩
  | cons c cs ih =>
    intro st
    obtain ⟨st1, h1⟩ := h c List.mem_cons_self st
    obtain ⟨st2, h2⟩ := ih (fun c hc => h c (List.mem_cons_of_mem _ hc)) st1
    exact ⟨st2, (bind_ok_iff _ _ _).mpr ⟨st1, h1, h2⟩⟩

theorem execInstr_ok (lines : List Text.Str) (rec : Rec) (i : Instr)
    (h : ∀ c ∈ i.kids, ∀ st, ∃ st', rec c st = .ok st') :
    ∀ env st, ∃ r, execInstr lines rec i env st = .ok r := fun env st =>
  (visitAll_ok rec i.kids h (i.pre lines env st)).elim fun st1 h1 => ⟨_, execInstr_ok_iff.mpr ⟨st1, h1, rfl⟩⟩

theorem exec_ok (lines : List Text.Str) (rec : Rec) (prog : Prog)
    (h : ∀ c ∈ progKids prog, ∀ st, ∃ st', rec c st = .ok st') :
    ∀ env st, ∃ st', exec lines rec prog env st = .ok st' := by
  induction prog with
  | nil => intro env st; exact ⟨st, rfl⟩
  | cons i is ih =>
    intro env st
    obtain ⟨r, h1⟩ := execInstr_ok lines rec i (fun c hc => h c (by simp [hc])) env st
    obtain ⟨st2, h2⟩ := ih (fun c hc => h c (by simp [hc])) r.1 r.2
    simp [exec, h1, h2, bind, Except.bind]

end SuppModel.Extract
