/-
  Lint family, lemmas behind Props/C10.lean: the generated decision chain against the sentence, the usage loop in
  closed form, and the shape of the answer.
-/
import SuppModel.Lint.Spec

namespace SuppModel.Lint

/-- A finite check, re-run over the regenerated chain.  `Valid` first fixes kind and scope of star and
    `__future__` imports; every remaining combination of facts is evaluated, so the proof does not depend on the
    order of the tests and fails as soon as one of them is missing. -/
theorem rule_unused : ∀ s : SpecFacts, s.Valid →
    Generated.reportFull (s.toFacts false) = (spec s).map fun c => (c, specMsg c)
  | ⟨sk, bk, u, o, false, false, d⟩, h => by
    clear h
    cases sk <;> cases bk <;> revert u o d <;> decide +kernel
  | ⟨sk, bk, u, o, true, false, d⟩, h => by
    obtain ⟨rfl, rfl⟩ := h.2 rfl
    revert u o d; decide +kernel
  | ⟨sk, bk, u, o, ff, true, d⟩, h => by
    obtain ⟨rfl, rfl⟩ := h.1 rfl
    revert u o ff d; decide +kernel

theorem rule_used (f : Facts) (h : f.used = true) : Generated.reportFull f = none := by
  simp [Generated.reportFull, h]

theorem factsOf_eq (st : St) (b : Binding) :
    factsOf st b = (specFactsOf b (st.qualified.contains b.name)).toFacts (st.used.contains b.id) := by
  obtain ⟨_, _, kind⟩ := b
  cases kind <;> rfl

theorem mkDiag_eq (b : Binding) (c : Code) : mkDiag b c (specMsg c) = ownDiag b c := rfl

/-- what one iteration of the usage loop adds to the state; it does not depend on the state -/
def delta (r : Read) : St :=
  match r.flow with
  | none => ⟨[], [], [⟨"E42", Generated.unknownNamePrefix ++ r.id, r.loc.1, r.loc.2⟩]⟩
  | some fl =>
    match fl.table.lookup r.id with
    | none => ⟨[], [], [⟨"E02", Generated.undefinedNamePrefix ++ r.id, r.loc.1, r.loc.2⟩]⟩
    | some (.multi _ alts) => ⟨alts, [], []⟩
    | some (.single s) =>
      if s.name = "locals" ∧ s.locZero = true then ⟨localsMarks fl, [], []⟩
      else ⟨s.id.toList, if s.qualifiedImport then [s.name] else [], []⟩

theorem usageStep_eq (st : St) (r : Read) : usageStep st r =
    .ok ⟨(delta r).used ++ st.used, (delta r).qualified ++ st.qualified, st.diags ++ (delta r).diags⟩ := by
  unfold usageStep delta
  cases r.flow with
  | none => rfl
  | some fl =>
    dsimp only
    cases fl.table.lookup r.id with
    | none => rfl
    | some e =>
      cases e with
      | multi _ alts => simp
      | single s =>
        dsimp only
        split
        · simp
        · cases s.qualifiedImport <;> simp

theorem usageLoop_eq (rs : List Read) (st : St) : usageLoop st rs =
    .ok ⟨rs.reverse.flatMap (delta · |>.used) ++ st.used, rs.reverse.flatMap (delta · |>.qualified) ++ st.qualified,
      st.diags ++ rs.flatMap (delta · |>.diags)⟩ := by
  induction rs generalizing st with
  | nil => simp [usageLoop]
  | cons r rs ih => simp [usageLoop, usageStep_eq, ih]

theorem usage_eq (m : Module) : usage m =
    .ok ⟨m.reads.reverse.flatMap (delta · |>.used), m.reads.reverse.flatMap (delta · |>.qualified),
      m.reads.flatMap (delta · |>.diags)⟩ := by
  simp [usage, usageLoop_eq, St.init]

theorem lintModel_eq {m : Module} {st : St} (h : usage m = .ok st) :
    lintModel m = .ok (st.diags ++ m.allNames.filterMap (reportOf st)) := by
  simp [lintModel, h]

theorem mem_localsMarks {fl : ReadFlow} {i : BindingId} (h : i ∈ localsMarks fl) :
    ∃ kv ∈ fl.table, (i, some fl.scope) ∈ kv.2.scoped := by
  obtain ⟨kv, hkv, hi⟩ := List.mem_flatMap.mp h
  refine ⟨kv, hkv, ?_⟩
  split at hi
  · next s he =>
    split at hi
    · next hs => simpa [he, Entry.scoped, hs] using hi
    · simp at hi
  · simp at hi

theorem delta_keeps {m : Module} {b : Binding} (hb : b ∈ m.allNames) (hk : TableWellKeyed m) (hs : RefsScoped m)
    (hn : NeverRead m b) {r : Read} (hr : r ∈ m.reads) :
    b.id ∉ (delta r).used ∧ b.name ∉ (delta r).qualified := by
  have hne : r.id ≠ b.name := hn.1 r hr
  -- a table value found under the read's identifier carries that name, and so does every binding it marks
  have keyed {fl e} (hfl : r.flow = some fl) (hlk : fl.table.lookup r.id = some e) :
      e.name = r.id ∧ b.id ∉ e.ids := by
    obtain ⟨l₁, l₂, htab, _⟩ := List.lookup_eq_some_iff.mp hlk
    have hwk := hk r hr fl (by simp [hfl]) (r.id, e) (by simp [htab])
    exact ⟨hwk.1, fun hin => hne (hwk.2 _ hin b hb rfl).symm⟩
  unfold delta
  split
  · simp
  · next fl hfl =>
    split
    · simp
    · next nm alts hlk => exact ⟨(keyed hfl hlk).2, by simp⟩
    · next s hlk =>
      have ⟨(hnm : s.name = r.id), hid⟩ := keyed hfl hlk
      split
      · next hl =>
        -- a read of the builtin `locals` marks the bindings of the read's own scope only
        refine ⟨fun hin => hn.2 ⟨r, hr, ?_⟩, by simp⟩
        obtain ⟨kv, hkv, hp⟩ := mem_localsMarks hin
        have hsame : some fl.scope = some b.scope := hs r hr fl (by simp [hfl]) kv hkv _ hp b hb rfl
        simp [Read.localsIn, hfl, hlk, Option.some.inj hsame, hl.1, hl.2]
      · refine ⟨hid, ?_⟩
        split <;> simp [hnm, hne.symm]

theorem never_read_unused {m : Module} {b : Binding} {st : St} (hb : b ∈ m.allNames)
    (hk : TableWellKeyed m) (hs : RefsScoped m) (hn : NeverRead m b) (hrun : usage m = .ok st) :
    st.used.contains b.id = false ∧ st.qualified.contains b.name = false := by
  rw [usage_eq] at hrun
  cases hrun
  simp only [List.contains_eq_mem, decide_eq_false_iff_not, List.mem_flatMap, List.mem_reverse, not_exists, not_and]
  exact ⟨fun r hr => (delta_keeps hb hk hs hn hr).1, fun r hr => (delta_keeps hb hk hs hn hr).2⟩

def Diag.isW (d : Diag) : Bool := d.code = "W01" ∨ d.code = "W02"

theorem delta_diags_notW (r : Read) : ∀ d ∈ (delta r).diags, d.isW = false := by
  unfold delta
  split
  · simp [Diag.isW]
  · split
    · simp [Diag.isW]
    · simp
    · split <;> simp

theorem mkDiag_isW (b : Binding) (c : Code) (p : String) : (mkDiag b c p).isW = true := by
  cases c <;> simp [mkDiag, Diag.isW, Code.str]

/-- the bindings the report loop reports, with code and message prefix, in order -/
def reported (st : St) (l : List Binding) : List (Binding × Code × String) :=
  l.filterMap fun b => (Generated.reportFull (factsOf st b)).map fun cp => (b, cp.1, cp.2)

theorem reported_sublist (st : St) (l : List Binding) : ((reported st l).map (·.1)).Sublist l := by
  induction l with
  | nil => exact .slnil
  | cons b l ih =>
    simp only [reported, List.filterMap_cons] at ih ⊢
    cases Generated.reportFull (factsOf st b) <;> simp [ih]

theorem reported_nodup (st : St) {l : List Binding} (h : (l.map (·.id)).Nodup) :
    ((reported st l).map (·.1.id)).Nodup := by
  have := ((reported_sublist st l).map Binding.id).nodup h
  rwa [List.map_map] at this

theorem reported_diags (st : St) (l : List Binding) :
    l.filterMap (reportOf st) = (reported st l).map fun p => mkDiag p.1 p.2.1 p.2.2 := by
  simp only [reported, List.map_filterMap, Option.map_map]
  rfl

end SuppModel.Lint
