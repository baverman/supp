/-
  Attrs — executable model of supp's attribute tables (supp/name.py):
    ClassObject._cls_attrs / bases / _attrs,  InstanceValue._inst_attrs / _attrs (tree after bd90a2a and
    a174aec: in-progress guard `_busy` in `_attrs` and `_inst_attrs`),
    SourceScope.assigns restricted to one instance (MultiValue per attribute name),
    and the pre-fix InstanceValue._attrs (`instAttrsLegacy`).
  Core Lean only.  What is outside the code is a parameter: how a base expression evaluates
  (`Base`), `vars()`/`dir()` of runtime objects (attribute name lists of builtin bases), source positions
  (`Site`, opaque), the iteration order of `scope.locals` (a set: only the order of keys depends on it,
  never a lookup, and `assist` sorts).
-/
namespace SuppModel.Attrs

abbrev ClassId := Nat
/-- an opaque source position (file + line of the binding); the harness numbers them -/
abbrev Site := Nat

/-- what `ctx.evaluate(base_expr)` gives for one entry of `ClassDef.bases` -/
inductive Base where
  /-- a ClassObject of the project -/
  | src (c : ClassId)
  /-- a RuntimeName wrapping a builtin type: `attrs` = keys of `vars(type)`,
      `inst` = names of `dir(type())` (attributes of `RuntimeName.call`; [] when the call fails) -/
  | builtin (name : String) (attrs : List String) (inst : List String)
  /-- an expression whose value is not a `Callable` (None, a CompositeValue, an instance): dropped by
      `ClassObject.bases` -/
  | unknown
deriving DecidableEq, Repr

structure ClassDef where
  bases : List Base
  /-- names bound in the class body, source order (`scope.flow.names` restricted to `scope.locals`) -/
  body : List (String × Site)
  /-- `self.<name> = …` in any method, `_attr_assigns` order -/
  selfAssigns : List (String × Site)
deriving DecidableEq, Repr

abbrev Hier := List (ClassId × ClassDef)

/-- the value stored under an attribute name -/
inductive Val where
  | site (s : Site)            -- a Name bound in a class body (FuncScope, ClassScope, AssignedName …)
  | builtin (owner : String)   -- a RuntimeName
  | multi (ss : List Site)     -- a MultiValue: the AssignedAttributes of one name
deriving DecidableEq, Repr

/-! ### Python dict as an association list (insertion ordered, unique keys) -/

abbrev Dict (α : Type) := List (String × α)

namespace Dict
variable {α : Type}

def get : Dict α → String → Option α
  | [], _ => none
  | (k, v) :: r, x => if k = x then some v else get r x

/-- `d[k] = v`: an existing key keeps its position -/
def set : Dict α → String → α → Dict α
  | [], k, v => [(k, v)]
  | (k', v') :: r, k, v => if k' = k then (k', v) :: r else (k', v') :: set r k v

/-- `d.update(e)` (also `dict(e)` / a dict comprehension when `d = []`) -/
def update (d : Dict α) (e : List (String × α)) : Dict α :=
  e.foldl (fun acc kv => Dict.set acc kv.1 kv.2) d

def keys (d : Dict α) : List String := d.map (·.1)

end Dict

def getDef (h : Hier) (c : ClassId) : ClassDef :=
  match h.lookup c with
  | some cd => cd
  | none => ⟨[], [], []⟩

/-- `ClassObject._cls_attrs`: `{n: names[n] for n in scope.locals}`, the later binding of a name wins -/
def clsAttrs (cd : ClassDef) : Dict Val :=
  Dict.update [] (cd.body.map (fun p => (p.1, Val.site p.2)))

/-- `{k: RuntimeName(k, …) for k in vars(value)}` -/
def fromKeys (ks : List String) (v : Val) : Dict Val :=
  Dict.update [] (ks.map (fun k => (k, v)))

/-- `SourceScope.assigns(ctx).get(instance, {})`: one MultiValue per name, sites in `_attr_assigns` order -/
def assignSites (l : List (String × Site)) : Dict (List Site) :=
  l.foldl (fun d p => Dict.set d p.1 (((Dict.get d p.1).getD []) ++ [p.2])) ([] : Dict (List Site))

def ownInst (cd : ClassDef) : Dict Val :=
  (assignSites cd.selfAssigns).map (fun p => (p.1, Val.multi p.2))

/-- `b._attrs` for one evaluated base of a class -/
def baseClassAttrs (rec : ClassId → Dict Val) : Base → Dict Val
  | .src d => rec d
  | .builtin nm attrs _ => fromKeys attrs (.builtin nm)
  | .unknown => []

/-- `attrs = init; for b in reversed(bases): attrs.update(F(b))` (a base whose table is skipped by the
    code contributes the empty table) -/
def mergeBases (F : Base → Dict Val) (bases : List Base) (init : Dict Val) : Dict Val :=
  bases.reverse.foldl (fun acc b => Dict.update acc (F b)) init

/-- `ClassObject._attrs` WITHOUT the in-progress guard (the code before a174aec; a cyclic hierarchy made it
    recurse until RecursionError — fuel stands for Python's stack).  Kept for `instAttrsLegacyF`. -/
def classAttrsF : Nat → Hier → ClassId → Dict Val
  | 0, _, _ => []
  | n + 1, h, c =>
    let cd := getDef h c
    Dict.update (mergeBases (baseClassAttrs (classAttrsF n h)) cd.bases []) (clsAttrs cd)

/-- `o._inst_attrs` for `o = b.call(ctx)` when that is an InstanceValue (bases that are ClassObjects) -/
def baseInstOnly (rec : ClassId → Dict Val) : Base → Dict Val
  | .src d => rec d
  | _ => []

/-- `InstanceValue._inst_attrs` without the guard (before a174aec) -/
def instOnlyF : Nat → Hier → ClassId → Dict Val
  | 0, _, _ => []
  | n + 1, h, c =>
    let cd := getDef h c
    Dict.update (mergeBases (baseInstOnly (instOnlyF n h)) cd.bases []) (ownInst cd)

/-- `o._attrs` for `o = b.call(ctx)` when that is not an InstanceValue: the attributes of a runtime
    instance of a builtin base -/
def baseRuntimeInst : Base → Dict Val
  | .builtin nm _ inst => fromKeys inst (.builtin nm)
  | _ => []

/-- evaluating class `c` with fuel `n` never runs out of fuel (unguarded tables) -/
def okF : Nat → Hier → ClassId → Bool
  | 0, _, _ => false
  | n + 1, h, c => (getDef h c).bases.all (fun b => match b with | .src d => okF n h d | _ => true)

/-- `ClassObject._attrs` (current tree): `busy` = the classes whose `_busy` flag is set, i.e. the classes being
    collected on the current path; a class met again contributes NOTHING (not even its own body), otherwise
    `for b in reversed(bases): attrs.update(b._attrs)` and then the own body.
    The recursion is bounded by the guard (each level adds a class of `h` to `busy`; a class outside `h` has no
    bases): `fuel h` always suffices, see `tables_total`.
    Not modelled: `cached_property` keeps the partial table a class got while an ancestor-in-a-cycle was busy;
    on cyclic hierarchies in which such a class is reached again along another path the real answer depends on
    the traversal order.  On acyclic hierarchies the guard never fires and the cache is invisible. -/
def classAttrsG : Nat → List ClassId → Hier → ClassId → Dict Val
  | 0, _, _, _ => []
  | n + 1, busy, h, c =>
    if c ∈ busy then []
    else
      Dict.update (mergeBases (baseClassAttrs (classAttrsG n (c :: busy) h)) (getDef h c).bases [])
        (clsAttrs (getDef h c))

/-- `InstanceValue._inst_attrs` (current tree), guard `_busy` of the instance values -/
def instOnlyG : Nat → List ClassId → Hier → ClassId → Dict Val
  | 0, _, _, _ => []
  | n + 1, busy, h, c =>
    if c ∈ busy then []
    else
      Dict.update (mergeBases (baseInstOnly (instOnlyG n (c :: busy) h)) (getDef h c).bases [])
        (ownInst (getDef h c))

/-- collecting class `c` with fuel `n` neither runs out of fuel nor meets a busy class -/
def okG : Nat → List ClassId → Hier → ClassId → Bool
  | 0, _, _, _ => false
  | n + 1, busy, h, c =>
    decide (c ∉ busy) &&
      (getDef h c).bases.all (fun b => match b with | .src d => okG n (c :: busy) h d | _ => true)

def fuel (h : Hier) : Nat := h.length + 1

/-- no inheritance cycle is reachable from `c`: while the table of `c` is collected the in-progress guard never
    fires (and `fuel h` is enough).  On a cyclic hierarchy the guard cuts the cycle (totality: C08); the lookup
    order of C06 is stated for acyclic hierarchies. -/
def Acyclic (h : Hier) (c : ClassId) : Prop := okG (fuel h) [] h c = true

instance (h : Hier) (c : ClassId) : Decidable (Acyclic h c) := by unfold Acyclic; infer_instance

def classAttrs (h : Hier) (c : ClassId) : Dict Val := classAttrsG (fuel h) [] h c
def instOnly (h : Hier) (c : ClassId) : Dict Val := instOnlyG (fuel h) [] h c

/-- `InstanceValue._attrs` (current tree): runtime instances of builtin bases, then the class table of
    the whole hierarchy, then everything assigned through `self` -/
def instAttrs (h : Hier) (c : ClassId) : Dict Val :=
  let cd := getDef h c
  Dict.update (Dict.update (mergeBases baseRuntimeInst cd.bases []) (classAttrs h c)) (instOnly h c)

/-- `o._attrs` of `o = b.call(ctx)` in the pre-fix code: complete instance tables of the bases -/
def baseLegacy (rec : ClassId → Dict Val) : Base → Dict Val
  | .src d => rec d
  | b => baseRuntimeInst b

/-- `InstanceValue._attrs` before bd90a2a: the complete table of every base *instance* applied over the
    derived class's table -/
def instAttrsLegacyF : Nat → Hier → ClassId → Dict Val
  | 0, _, _ => []
  | n + 1, h, c =>
    let cd := getDef h c
    Dict.update (mergeBases (baseLegacy (instAttrsLegacyF n h)) cd.bases (classAttrsF (n + 1) h c)) (ownInst cd)

def instAttrsLegacy (h : Hier) (c : ClassId) : Dict Val := instAttrsLegacyF (fuel h) h c

/-- what `cls` in a classmethod was looked up in before 51a17f1: the instance table -/
def clsParamLegacy (h : Hier) (c : ClassId) : Dict Val := instAttrs h c

end SuppModel.Attrs
