/-
  Attrs — the closed form of the attribute tables (lookup = first defining MRO entry), fuel independence on
  acyclic hierarchies, and totality of the guarded tables on every hierarchy.
-/
import SuppModel.Attrs.LemmasDict

namespace SuppModel.Attrs
open Dict

theorem nodup_clsAttrs (cd : ClassDef) : (keys (clsAttrs cd)).Nodup :=
  nodup_update List.nodup_nil

theorem nodup_fromKeys (ks : List String) (v : Val) : (keys (fromKeys ks v)).Nodup :=
  nodup_update List.nodup_nil

theorem bodyLookup_eq_getLast (body : List (String × Site)) (x : String) :
    bodyLookup body x = getLast body x := by
  induction body with
  | nil => rfl
  | cons p r ih =>
    rw [bodyLookup, getLast, ih]
    cases getLast r x <;> rfl

theorem get_clsAttrs (cd : ClassDef) (x : String) :
    get (clsAttrs cd) x = (bodyLookup cd.body x).map Val.site := by
  rw [clsAttrs, get_update, getLast_map, bodyLookup_eq_getLast, get_nil, Option.or_none]

theorem get_fromKeys (ks : List String) (v : Val) (x : String) :
    get (fromKeys ks v) x = if x ∈ ks then some v else none := by
  rw [fromKeys, get_update, get_nil, Option.or_none]
  induction ks with
  | nil => rfl
  | cons k r ih =>
    rw [List.map_cons, getLast, ih]
    by_cases hr : x ∈ r <;> by_cases hk : k = x <;> simp [hr, hk, eq_comm (a := x)]

/-- `selfSites` on the bare list: `selfSites cd x = sitesOf cd.selfAssigns x` by `rfl` -/
def sitesOf (l : List (String × Site)) (x : String) : List Site :=
  (l.filter (fun p => p.1 = x)).map (·.2)

theorem sitesOf_cons (p : String × Site) (r : List (String × Site)) (x : String) :
    sitesOf (p :: r) x = if p.1 = x then p.2 :: sitesOf r x else sitesOf r x := by
  by_cases hk : p.1 = x <;> simp [sitesOf, hk]

theorem get_foldl_assign (l : List (String × Site)) (d : Dict (List Site)) (x : String) :
    get (l.foldl (fun d p => Dict.set d p.1 (((Dict.get d p.1).getD []) ++ [p.2])) d) x =
      if sitesOf l x = [] then get d x else some ((get d x).getD [] ++ sitesOf l x) := by
  induction l generalizing d with
  | nil => rfl
  | cons p r ih =>
    rw [List.foldl_cons, ih, get_set, sitesOf_cons]
    by_cases hk : p.1 = x
    · subst hk
      by_cases hr : sitesOf r p.1 = [] <;> simp [hr]
    · simp [hk]

theorem nodup_ownInst (cd : ClassDef) : (keys (ownInst cd)).Nodup := by
  rw [ownInst, keys_map]
  exact nodup_foldl_set List.nodup_nil

theorem get_ownInst (cd : ClassDef) (x : String) :
    get (ownInst cd) x = if selfSites cd x = [] then none else some (.multi (selfSites cd x)) := by
  rw [ownInst, get_map, assignSites, get_foldl_assign]
  show Option.map _ (if selfSites cd x = [] then _ else _) = _
  split <;> rfl

section mergeBases
variable {F G : Base → Dict Val} {b : Base} {bs : List Base} {init : Dict Val}

theorem mergeBases_cons :
    mergeBases F (b :: bs) init = update (mergeBases F bs init) (F b) := by
  simp [mergeBases, List.foldl_append]

theorem nodup_mergeBases (hi : (keys init).Nodup) : (keys (mergeBases F bs init)).Nodup := by
  induction bs with
  | nil => exact hi
  | cons b r ih => rw [mergeBases_cons]; exact nodup_update ih

theorem get_mergeBases {x : String} (hF : ∀ b, (keys (F b)).Nodup) :
    get (mergeBases F bs init) x = (bs.findSome? (fun b => get (F b) x)).or (get init x) := by
  induction bs with
  | nil => rfl
  | cons b r ih =>
    rw [mergeBases_cons, get_update_dict (hF b), ih, List.findSome?_cons]
    cases get (F b) x <;> rfl

theorem mergeBases_congr (hFG : ∀ b ∈ bs, F b = G b) : mergeBases F bs init = mergeBases G bs init := by
  induction bs with
  | nil => rfl
  | cons b r ih =>
    rw [mergeBases_cons, mergeBases_cons, hFG b List.mem_cons_self,
      ih fun b hb => hFG b (List.mem_cons_of_mem _ hb)]

end mergeBases

theorem nodup_classAttrsF (n : Nat) (h : Hier) (c : ClassId) : (keys (classAttrsF n h c)).Nodup := by
  cases n with
  | zero => exact List.nodup_nil
  | succ n => exact nodup_update (nodup_mergeBases List.nodup_nil)

theorem nodup_instOnlyF (n : Nat) (h : Hier) (c : ClassId) : (keys (instOnlyF n h c)).Nodup := by
  cases n with
  | zero => exact List.nodup_nil
  | succ n => exact nodup_update (nodup_mergeBases List.nodup_nil)

variable {n : Nat} {busy : List ClassId} {h : Hier} {c : ClassId} {x : String}

theorem okF_base (hok : okF (n + 1) h c = true) {d : ClassId}
    (hd : Base.src d ∈ (getDef h c).bases) : okF n h d = true :=
  List.all_eq_true.mp hok _ hd

theorem okG_not_busy (hok : okG (n + 1) busy h c = true) : c ∉ busy :=
  of_decide_eq_true (Bool.and_eq_true_iff.mp hok).1

theorem okG_base (hok : okG (n + 1) busy h c = true)
    {d : ClassId} (hd : Base.src d ∈ (getDef h c).bases) : okG n (c :: busy) h d = true :=
  List.all_eq_true.mp (Bool.and_eq_true_iff.mp hok).2 _ hd

theorem okF_of_okG (hok : okG n busy h c = true) : okF n h c = true := by
  induction n generalizing busy c with
  | zero => cases hok
  | succ n ih =>
    refine List.all_eq_true.mpr fun b hb => ?_
    cases b with
    | src d => exact ih (okG_base hok hb)
    | _ => rfl

theorem okG_succ (n : Nat) (busy : List ClassId) (h : Hier) (c : ClassId) (hok : okG n busy h c = true) :
    okG (n + 1) busy h c = true := by
  induction n generalizing busy c with
  | zero => cases hok
  | succ n ih =>
    refine Bool.and_eq_true_iff.mpr ⟨decide_eq_true (okG_not_busy hok), List.all_eq_true.mpr fun b hb => ?_⟩
    cases b with
    | src d => exact ih _ d (okG_base hok hb)
    | _ => rfl

theorem mroF_eq_of_okF {m : Nat} (hok : okF n h c = true) (hle : n ≤ m) :
    mroF m h c = mroF n h c := by
  induction n generalizing m c with
  | zero => cases hok
  | succ n ih =>
    obtain ⟨m, rfl⟩ := Nat.exists_eq_add_one_of_ne_zero (Nat.ne_zero_of_lt hle)
    rw [mroF, mroF]
    congr 1
    refine flatMap_congr_mem fun b hb => ?_
    cases b with
    | src d => exact ih (okF_base hok hb) (Nat.le_of_succ_le_succ hle)
    | _ => rfl

theorem mem_of_mem_bases {b : Base} (hb : b ∈ (getDef h c).bases) : c ∈ h.map (·.1) :=
  Decidable.by_contra fun hc => by
    have : h.lookup c = none := List.lookup_eq_none_iff.mpr fun p hp =>
      bne_iff_ne.mpr fun e => hc (e ▸ List.mem_map_of_mem hp)
    rw [getDef, this] at hb
    cases hb

/-! `classAttrsG` and `instOnlyG` are one recursion over two choices of the class's own table and of the table of
a base that is not a class of the project. -/

def baseG (K : Base → Dict Val) (rec : ClassId → Dict Val) : Base → Dict Val
  | .src d => rec d
  | b => K b

def tableG (own : ClassDef → Dict Val) (K : Base → Dict Val) : Nat → List ClassId → Hier → ClassId → Dict Val
  | 0, _, _, _ => []
  | n + 1, busy, h, c =>
    if c ∈ busy then []
    else update (mergeBases (baseG K (tableG own K n (c :: busy) h)) (getDef h c).bases []) (own (getDef h c))

/-- `baseG` consults `K` only at bases that are not `.src`, where `baseClassAttrs` ignores its recursion argument:
    any function serves there, `fun _ => []` is the simplest -/
theorem classAttrsG_eq (n : Nat) : classAttrsG n = tableG clsAttrs (baseClassAttrs fun _ => []) n := by
  induction n with
  | zero => rfl
  | succ n ih =>
    funext busy h c
    rw [classAttrsG, tableG, ih]
    congr 4
    funext b; cases b <;> rfl

theorem instOnlyG_eq (n : Nat) : instOnlyG n = tableG ownInst (fun _ => []) n := by
  induction n with
  | zero => rfl
  | succ n ih =>
    funext busy h c
    rw [instOnlyG, tableG, ih]
    rfl

section tableG
variable {own : ClassDef → Dict Val} {K : Base → Dict Val}

theorem nodup_tableG : (keys (tableG own K n busy h c)).Nodup := by
  cases n with
  | zero => exact List.nodup_nil
  | succ n =>
    rw [tableG]
    split
    · exact List.nodup_nil
    · exact nodup_update (nodup_mergeBases List.nodup_nil)

/-- closed form: a lookup in the table is the first entry of the linearisation that defines the name, when the
    own table answers as the entry of its class and `K` as the entries of its base -/
theorem get_tableG {entry : MroEntry → Option Val}
    (hown : ∀ cd, (keys (own cd)).Nodup) (hK : ∀ b, (keys (K b)).Nodup)
    (hcls : ∀ c, get (own (getDef h c)) x = entry (.cls c))
    (hbase : ∀ b, get (K b) x = (baseMro (fun _ => []) b).findSome? entry)
    (hok : okG n busy h c = true) :
    get (tableG own K n busy h c) x = (mroF n h c).findSome? entry := by
  induction n generalizing c busy with
  | zero => cases hok
  | succ n ih =>
    have hnd : ∀ b, (keys (baseG K (tableG own K n (c :: busy) h) b)).Nodup := fun b => by
      cases b with
      | src d => exact nodup_tableG
      | _ => exact hK _
    rw [tableG, if_neg (okG_not_busy hok), get_update_dict (hown _), hcls,
      get_mergeBases hnd, get_nil, Option.or_none, mroF, List.findSome?_cons, findSome?_flatMap,
      findSome?_congr_mem (g := fun b => (baseMro (mroF n h) b).findSome? entry)]
    · cases entry (.cls c) <;> rfl
    · intro b hb
      cases b with
      | src d => exact ih (okG_base hok hb)
      | _ => exact hbase _

/-- the classes being collected are distinct classes of `h` (a class outside `h` has no bases to descend into),
    so there are at most `h.length` of them: with more fuel than the remainder, one more unit changes nothing -/
theorem tableG_stable (hnd : busy.Nodup) (hsub : busy ⊆ h.map (·.1)) (hn : h.length < busy.length + n) :
    tableG own K (n + 1) busy h c = tableG own K n busy h c := by
  induction n generalizing busy c with
  | zero =>
    exact absurd (hnd.length_le_of_subset hsub) (by rw [List.length_map]; exact Nat.not_le_of_lt hn)
  | succ n ih =>
    rw [tableG, tableG]
    split
    · rfl
    · rename_i hb
      congr 1
      refine mergeBases_congr fun b hbm => ?_
      cases b with
      | src d =>
        exact ih (List.nodup_cons.mpr ⟨hb, hnd⟩) (List.cons_subset.mpr ⟨mem_of_mem_bases hbm, hsub⟩)
          (by rw [List.length_cons, Nat.add_right_comm]; exact hn)
      | _ => rfl

theorem tableG_fuel_add (k : Nat) : tableG own K (fuel h + k) [] h c = tableG own K (fuel h) [] h c := by
  induction k with
  | zero => rfl
  | succ k ih =>
    exact (tableG_stable List.nodup_nil (List.nil_subset _) (Nat.lt_add_left _ (Nat.lt_add_right k (Nat.lt_succ_self _)))).trans ih

end tableG

theorem nodup_classAttrsG : (keys (classAttrsG n busy h c)).Nodup := by
  rw [classAttrsG_eq]; exact nodup_tableG

theorem nodup_instOnlyG : (keys (instOnlyG n busy h c)).Nodup := by
  rw [instOnlyG_eq]; exact nodup_tableG

theorem get_classAttrsG (hok : okG n busy h c = true) :
    get (classAttrsG n busy h c) x = (mroF n h c).findSome? (classEntry h x) := by
  rw [classAttrsG_eq]
  refine get_tableG nodup_clsAttrs (fun b => ?_) (fun c => get_clsAttrs _ x) (fun b => ?_) hok
  · cases b with
    | builtin nm a i => exact nodup_fromKeys _ _
    | _ => exact List.nodup_nil
  · cases b with
    | builtin nm a i => exact (get_fromKeys _ _ _).trans List.findSome?_singleton.symm
    | _ => rfl

theorem get_instOnlyG (hok : okG n busy h c = true) :
    get (instOnlyG n busy h c) x = (mroF n h c).findSome? (instEntry h x) := by
  rw [instOnlyG_eq]
  refine get_tableG nodup_ownInst (fun _ => List.nodup_nil) (fun c => get_ownInst _ x) (fun b => ?_) hok
  cases b <;> rfl

theorem get_runtimeInst :
    get (mergeBases baseRuntimeInst (getDef h c).bases []) x = runtimeInstLookup h c x := by
  have hnd : ∀ b, (keys (baseRuntimeInst b)).Nodup := fun b => by
    cases b with
    | builtin nm a i => exact nodup_fromKeys _ _
    | _ => exact List.nodup_nil
  rw [get_mergeBases hnd, get_nil, Option.or_none, runtimeInstLookup]
  congr 1
  funext b
  cases b with
  | builtin nm a i => exact get_fromKeys _ _ _
  | _ => rfl

theorem get_classAttrs (ha : Acyclic h c) :
    get (classAttrs h c) x = classLookup h c x :=
  get_classAttrsG ha

theorem get_instAttrs (ha : Acyclic h c) :
    get (instAttrs h c) x =
      ((mro h c).findSome? (instEntry h x)).or ((classLookup h c x).or (runtimeInstLookup h c x)) := by
  rw [instAttrs, instOnly, classAttrs, get_update_dict nodup_instOnlyG, get_update_dict nodup_classAttrsG,
    get_instOnlyG ha, get_classAttrsG ha, get_runtimeInst]
  rfl

theorem bodyLookup_isSome_iff (body : List (String × Site)) (x : String) :
    (bodyLookup body x).isSome = true ↔ x ∈ body.map (·.1) := by
  rw [bodyLookup_eq_getLast, getLast_isSome_iff]

theorem selfSites_ne_nil_iff (cd : ClassDef) (x : String) : selfSites cd x ≠ [] ↔ x ∈ selfNames cd := by
  rw [Ne, selfSites, List.map_eq_nil_iff, List.filter_eq_nil_iff, selfNames, List.mem_map]
  simp only [decide_eq_true_eq, Classical.not_forall, Classical.not_not, exists_prop]

theorem MroEntry.exists_mem {l : List MroEntry} {P : MroEntry → Prop} :
    (∃ e ∈ l, P e) ↔
      (∃ d, .cls d ∈ l ∧ P (.cls d)) ∨ (∃ nm attrs, .builtin nm attrs ∈ l ∧ P (.builtin nm attrs)) := by
  constructor
  · rintro ⟨e | e, he, hp⟩
    · exact Or.inl ⟨_, he, hp⟩
    · exact Or.inr ⟨_, _, he, hp⟩
  · rintro (⟨d, he, hp⟩ | ⟨nm, a, he, hp⟩) <;> exact ⟨_, he, hp⟩

theorem classEntry_cls_isSome_iff {d : ClassId} :
    (classEntry h x (.cls d)).isSome = true ↔ x ∈ bodyNames (getDef h d) := by
  rw [classEntry, Option.isSome_map, bodyLookup_isSome_iff, bodyNames]

theorem classEntry_builtin_isSome_iff {nm : String} {attrs : List String} :
    (classEntry h x (.builtin nm attrs)).isSome = true ↔ x ∈ attrs := by
  rw [classEntry]
  by_cases hx : x ∈ attrs <;> simp [hx]

theorem instEntry_eq_some {e : MroEntry} {v : Val} :
    instEntry h x e = some v ↔
      ∃ d, e = .cls d ∧ selfSites (getDef h d) x ≠ [] ∧ v = .multi (selfSites (getDef h d) x) := by
  cases e with
  | cls d => by_cases hs : selfSites (getDef h d) x = [] <;> simp [instEntry, hs, eq_comm (a := v)]
  | builtin nm attrs => simp [instEntry]

theorem instEntry_cls_isSome_iff {d : ClassId} :
    (instEntry h x (.cls d)).isSome = true ↔ x ∈ selfNames (getDef h d) := by
  rw [instEntry, ← selfSites_ne_nil_iff]
  by_cases hs : selfSites (getDef h d) x = [] <;> simp [hs]

theorem instEntry_builtin {nm : String} {attrs : List String} : instEntry h x (.builtin nm attrs) = none := rfl

theorem instAssigned_eq :
    instAssigned h c x = ((mro h c).findSome? (instEntry h x)).isSome :=
  List.isSome_findSome?.symm

theorem runtimeInstLookup_isSome_iff :
    (runtimeInstLookup h c x).isSome = true ↔
      ∃ nm attrs inst, Base.builtin nm attrs inst ∈ (getDef h c).bases ∧ x ∈ inst := by
  rw [runtimeInstLookup, List.findSome?_isSome_iff]
  constructor
  · rintro ⟨b, hb, hs⟩
    cases b with
    | builtin nm a i => exact ⟨nm, a, i, hb, Decidable.by_contra fun hx => by simp [hx] at hs⟩
    | _ => cases hs
  · rintro ⟨nm, a, i, hb, hx⟩
    exact ⟨_, hb, by simp [hx]⟩

theorem tables_total (h : Hier) (c : ClassId) (k : Nat) :
    classAttrsG (fuel h + k) [] h c = classAttrs h c ∧ instOnlyG (fuel h + k) [] h c = instOnly h c := by
  rw [classAttrs, instOnly, classAttrsG_eq, classAttrsG_eq, instOnlyG_eq, instOnlyG_eq]
  exact ⟨tableG_fuel_add k, tableG_fuel_add k⟩

end SuppModel.Attrs
