/-
  Attrs — the dict algebra: lookups in `set`/`update`, key sets, and three `flatMap`/`findSome?` lemmas core lacks.
-/
import SuppModel.Attrs.Spec

namespace SuppModel.Attrs

theorem flatMap_congr_mem {α β : Type} {l : List α} {f g : α → List β}
    (hfg : ∀ a ∈ l, f a = g a) : l.flatMap f = l.flatMap g := by
  rw [List.flatMap_def, List.flatMap_def, List.map_congr_left hfg]

theorem findSome?_congr_mem {α β : Type} {l : List α} {f g : α → Option β}
    (hfg : ∀ a ∈ l, f a = g a) : l.findSome? f = l.findSome? g := by
  simpa only [List.findSome?_map, Function.id_comp] using
    congrArg (List.findSome? id) (List.map_congr_left hfg)

theorem findSome?_flatMap {α β γ : Type} (l : List α) (f : α → List β) (p : β → Option γ) :
    (l.flatMap f).findSome? p = l.findSome? (fun a => (f a).findSome? p) := by
  induction l with
  | nil => rfl
  | cons a r ih =>
    rw [List.flatMap_cons, List.findSome?_append, List.findSome?_cons, ih]
    cases (f a).findSome? p <;> rfl

namespace Dict
variable {α : Type}

@[simp] theorem get_nil (x : String) : get ([] : Dict α) x = none := rfl

variable {d e : Dict α} {k x : String} {v : α}

theorem get_cons {r : Dict α} :
    get ((k, v) :: r) x = if k = x then some v else get r x := rfl

theorem get_isSome_iff : (get d x).isSome = true ↔ x ∈ keys d := by
  induction d with
  | nil => simp [keys]
  | cons p r ih =>
    rw [get_cons, apply_ite Option.isSome, keys, List.map_cons, List.mem_cons, ← keys, ← ih]
    by_cases hk : p.1 = x <;> simp [hk, eq_comm (a := x)]

theorem get_eq_none_of_not_mem (hx : x ∉ keys d) : get d x = none := by
  simpa [← get_isSome_iff] using hx

theorem get_set :
    get (set d k v) x = if k = x then some v else get d x := by
  induction d with
  | nil => rfl
  | cons p r ih =>
    rw [set]
    by_cases hk : p.1 = k
    · rw [if_pos hk, get_cons, get_cons, hk]
      split <;> rfl
    · rw [if_neg hk, get_cons, get_cons, ih]
      by_cases hx : p.1 = x
      · subst hx; rw [if_pos rfl, if_neg (Ne.symm hk), if_pos rfl]
      · rw [if_neg hx, if_neg hx]

theorem mem_keys_set :
    x ∈ keys (set d k v) ↔ k = x ∨ x ∈ keys d := by
  rw [← get_isSome_iff, get_set, ← get_isSome_iff]
  by_cases hk : k = x <;> simp [hk]

theorem nodup_set (hd : (keys d).Nodup) : (keys (set d k v)).Nodup := by
  induction d with
  | nil => simp [set, keys]
  | cons p r ih =>
    rw [keys, List.map_cons, List.nodup_cons] at hd
    rw [set]
    split
    · simpa [keys] using hd
    · rename_i hk
      rw [keys, List.map_cons, List.nodup_cons, ← keys, mem_keys_set]
      exact ⟨fun hm => hm.elim (fun e => hk e.symm) hd.1, ih hd.2⟩

theorem update_cons {p : String × α} :
    update d (p :: e) = update (set d p.1 p.2) e := rfl

/-- key and value may depend on the dict built so far: the fold of `assignSites` reads it -/
theorem nodup_foldl_set {β : Type} {l : List β} {k : Dict α → β → String} {v : Dict α → β → α}
    (hd : (keys d).Nodup) : (keys (l.foldl (fun d p => set d (k d p) (v d p)) d)).Nodup := by
  induction l generalizing d with
  | nil => exact hd
  | cons p r ih => exact ih (nodup_set hd)

theorem nodup_update (hd : (keys d).Nodup) : (keys (update d e)).Nodup :=
  nodup_foldl_set hd

def getLast : List (String × α) → String → Option α
  | [], _ => none
  | (k, v) :: r, x => (getLast r x).or (if k = x then some v else none)

theorem get_update :
    get (update d e) x = (getLast e x).or (get d x) := by
  induction e generalizing d with
  | nil => simp [update, getLast]
  | cons p r ih =>
    rw [update_cons, ih, get_set, getLast]
    cases getLast r x <;> by_cases hk : p.1 = x <;> simp [hk]

theorem getLast_map {l : List (String × α)} {β : Type} {f : α → β} :
    getLast (l.map fun p => (p.1, f p.2)) x = (getLast l x).map f := by
  induction l with
  | nil => rfl
  | cons p r ih =>
    rw [List.map_cons, getLast, getLast, ih]
    cases getLast r x <;> by_cases hk : p.1 = x <;> simp [hk]

theorem getLast_isSome_iff {l : List (String × α)} :
    (getLast l x).isSome = true ↔ x ∈ l.map (·.1) := by
  induction l with
  | nil => simp [getLast]
  | cons p r ih =>
    rw [getLast, Option.isSome_or, Bool.or_eq_true, ih, List.map_cons, List.mem_cons]
    by_cases hk : p.1 = x <;> simp [hk, eq_comm (a := x)]

theorem getLast_eq_get (hd : (keys d).Nodup) : getLast d x = get d x := by
  induction d with
  | nil => rfl
  | cons p r ih =>
    rw [keys, List.map_cons, List.nodup_cons] at hd
    rw [getLast, get_cons, ih hd.2]
    split
    · rename_i hk
      rw [get_eq_none_of_not_mem (hk ▸ hd.1)]; rfl
    · cases get r x <;> rfl

theorem get_update_dict (he : (keys e).Nodup) :
    get (update d e) x = (get e x).or (get d x) := by
  rw [get_update, getLast_eq_get he]

theorem get_map {β : Type} {f : α → β} :
    get (d.map fun p => (p.1, f p.2)) x = (get d x).map f := by
  induction d with
  | nil => rfl
  | cons p r ih =>
    rw [List.map_cons, get_cons, get_cons, ih]
    split <;> rfl

theorem keys_map {β : Type} {f : α → β} :
    keys (d.map fun p => (p.1, f p.2)) = keys d := by
  simp [keys, List.map_map, Function.comp_def]

end Dict
end SuppModel.Attrs
