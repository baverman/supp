/-
  The cursor mark: `unmark` after inserting the mark (C12), and how `location()` moves positions of the marked
  text back (C11).
-/
import SuppModel.Text.Str

namespace SuppModel.Text

theorem early_append (sub a b : Str) (i : Nat) (hi : i < a.length)
    (h : sub <+: (a ++ sub ++ b).drop i) : sub <+: (a ++ sub).drop i := by
  rw [List.drop_append_of_le_length (by rw [List.length_append]; omega)] at h
  refine List.prefix_of_prefix_length_le h (List.prefix_append _ _) ?_
  rw [List.length_drop, List.length_append]; omega

theorem pyFind_insert (sub a b : Str) (h : ∀ i, i < a.length → ¬ sub <+: (a ++ sub).drop i) :
    pyFind (a ++ sub ++ b) sub 0 = some a.length := by
  rw [pyFind_some]
  refine ⟨Nat.zero_le _, by simp only [List.length_append]; omega, ?_, fun q _ hq hh => h q hq (early_append sub a b q hq hh)⟩
  rw [List.append_assoc, List.drop_left]
  exact List.prefix_append _ _

theorem findAux_singleton (c : Char) (b : Str) (n : Nat) :
    findAux [c] b n = if c ∈ b then some (n + (b.takeWhile (· != c)).length) else none := by
  induction b generalizing n with
  | nil => simp [findAux, List.isPrefixOf]
  | cons x t ih =>
    by_cases hc : x = c
    · subst hc
      simp [findAux, List.isPrefixOf]
    · have h1 : ([c].isPrefixOf (x :: t)) = false := by simpa [List.isPrefixOf] using Ne.symm hc
      have h3 : (c ∈ x :: t) ↔ c ∈ t := by rw [List.mem_cons, or_iff_right (Ne.symm hc)]
      simp only [findAux, h1, Bool.false_eq_true, if_false, ih, h3, List.takeWhile_cons, bne_iff_ne.2 hc, if_true,
        List.length_cons, Nat.add_assoc, Nat.add_comm 1]

theorem unmark_of_find (name : Str) (k : Nat) (h : pyFind name Generated.sourceMark 0 = some k) :
    unmark name =
      match pyFind (name.take k ++ name.drop (k + Generated.sourceMark.length)) ['.'] k with
      | some d => (name.take k ++ name.drop (k + Generated.sourceMark.length)).take d
      | none => name.take k ++ name.drop (k + Generated.sourceMark.length) := by
  have hpos : pyFindI name Generated.sourceMark 0 = (k : Int) := by
    rw [show (0 : Int) = ((0 : Nat) : Int) from rfl, pyFindI_nat, h]
  simp only [unmark, hpos, ← Int.natCast_add, sliceTo_nat, sliceFrom_nat, pyFindI_nat]
  cases pyFind (name.take k ++ name.drop (k + Generated.sourceMark.length)) ['.'] k with
  | none => rfl
  | some d => simp only [Int.natCast_nonneg, if_true, sliceTo_nat]

theorem unmark_insert (a b : Str)
    (h : ∀ i, i < a.length → ¬ Generated.sourceMark <+: (a ++ Generated.sourceMark).drop i) :
    unmark (a ++ Generated.sourceMark ++ b) = a ++ b.takeWhile (· != '.') := by
  have e1 : (a ++ Generated.sourceMark ++ b).take a.length = a := by
    rw [List.append_assoc, List.take_left]
  have e2 : (a ++ Generated.sourceMark ++ b).drop (a.length + Generated.sourceMark.length) = b := by
    rw [← List.length_append, List.drop_left]
  have e3 : pyFind (a ++ b) ['.'] a.length = findAux ['.'] b a.length := by
    rw [pyFind, if_pos (by rw [List.length_append]; omega), List.drop_left]
  rw [unmark_of_find _ _ (pyFind_insert _ a b h), e1, e2, e3, findAux_singleton]
  by_cases hd : '.' ∈ b
  · simp only [if_pos hd]
    rw [List.take_append, List.take_of_length_le (by omega), Nat.add_sub_cancel_left,
      ← List.prefix_iff_eq_take.1 (List.takeWhile_prefix _)]
  · simp only [if_neg hd, takeWhile_ne_of_not_mem '.' b hd]

theorem locationEntry_markedPos (f : Str) (cursor p : Nat × Nat) (b : Binding) (hf : b.filename = f) :
    (locationEntry f cursor { b with declaredAt := markedPos cursor p }).loc = p := by
  have hm : 0 < Generated.sourceMark.length := by decide
  unfold locationEntry markedPos
  by_cases h : p.1 = cursor.1 ∧ cursor.2 ≤ p.2
  · have : p.2 + Generated.sourceMark.length > cursor.2 := by omega
    simp only [if_pos h]
    simp only [hf, h.1, this, and_self, if_true, Nat.add_sub_cancel]
    exact Prod.ext h.1.symm rfl
  · have : ¬ (p.1 = cursor.1 ∧ p.2 > cursor.2) := fun h' => h ⟨h'.1, by omega⟩
    simp only [if_neg h, hf, true_and, if_neg this]

end SuppModel.Text
