/-
  The notions the C11 / C12 statements are written in, each decidable, and the tactic that evaluates closed
  statements about them.
-/
import SuppModel.Text.Model

namespace SuppModel.Text

/-- Evaluates a closed statement.  String literals are first replaced by their character lists with
    `String.toList_ofList` (`rw` unifies `String.ofList _` with a literal): evaluating `"…".toList` itself runs the UTF-8
    encoder and decoder in the kernel, which takes longer than running the model.  The rest is left to the kernel alone. -/
macro "decide_text" : tactic => `(tactic| (repeat rw [String.toList_ofList]) <;> decide +kernel)

/-- a (delimited) occurrence of `id` at offset `p` of the window text `w`: what one loop iteration accepts -/
def OccAt (startD endD : List Char) (w id : Str) (delims : Bool) (p : Nat) : Prop :=
  id <+: w.drop p ∧ p + id.length ≤ w.length ∧
  (delims = true → p = 0 ∨ ∃ c, w[p - 1]? = some c ∧ c ∈ startD) ∧
  (delims = true → w.length ≤ p + id.length ∨ ∃ c, w[p + id.length]? = some c ∧ c ∈ endD)

/-- the left test of one iteration, as written in `findLoop` -/
def leftOk (startD : List Char) (w : Str) (delims : Bool) (p : Nat) : Bool :=
  p == 0 || !delims || (match w[p - 1]? with | some c => startD.contains c | none => false)

/-- the right test, as written in `findLoop` (`ep = p + len(id)`) -/
def rightOk (endD : List Char) (w : Str) (delims : Bool) (ep : Nat) : Bool :=
  decide (ep ≥ w.length) || !delims || (match w[ep]? with | some c => endD.contains c | none => false)

def occAt (startD endD : List Char) (w id : Str) (delims : Bool) (p : Nat) : Bool :=
  id.isPrefixOf (w.drop p) && decide (p + id.length ≤ w.length) &&
  leftOk startD w delims p && rightOk endD w delims (p + id.length)

theorem leftOk_iff (startD : List Char) (w : Str) (delims : Bool) (p : Nat) :
    leftOk startD w delims p = true ↔ (delims = true → p = 0 ∨ ∃ c, w[p - 1]? = some c ∧ c ∈ startD) := by
  unfold leftOk
  cases delims <;> cases h : w[p - 1]? <;> simp

theorem rightOk_iff (endD : List Char) (w : Str) (delims : Bool) (ep : Nat) :
    rightOk endD w delims ep = true ↔
      (delims = true → w.length ≤ ep ∨ ∃ c, w[ep]? = some c ∧ c ∈ endD) := by
  unfold rightOk
  cases delims <;> cases h : w[ep]? <;> simp

theorem occAt_iff (startD endD : List Char) (w id : Str) (delims : Bool) (p : Nat) :
    occAt startD endD w id delims p = true ↔ OccAt startD endD w id delims p := by
  simp only [occAt, OccAt, Bool.and_eq_true, List.isPrefixOf_iff_prefix, decide_eq_true_eq, leftOk_iff, rightOk_iff,
    and_assoc]

instance (startD endD : List Char) (w id : Str) (delims : Bool) (p : Nat) :
    Decidable (OccAt startD endD w id delims p) :=
  decidable_of_iff _ (occAt_iff startD endD w id delims p)

/-- line index (0-based) and column of offset `p` in a text: number of '\n' before p, and number of
    characters since the last '\n' -/
def lineCol (w : Str) (p : Nat) : Nat × Nat :=
  ((w.take p).count '\n', ((w.take p).reverse.takeWhile (· != '\n')).length)

/-- the shift of a call site compensates exactly the blank it prepends to the name -/
def siteOk (site : Generated.CallSite) : Bool :=
  site.shift == (if site.spacePrefixed then 1 else 0)

/-- no occurrence of the mark starts inside `a` in `a ++ MARK` (decidable twin of the hypothesis of `C12_unmark`) -/
def noEarlyMark (a : Str) : Bool :=
  (List.range a.length).all (fun i => !(Generated.sourceMark.isPrefixOf ((a ++ Generated.sourceMark).drop i)))

theorem noEarlyMark_iff (a : Str) :
    noEarlyMark a = true ↔
      ∀ i, i < a.length → ¬ Generated.sourceMark <+: (a ++ Generated.sourceMark).drop i := by
  simp only [noEarlyMark, List.all_eq_true, List.mem_range, Bool.not_eq_true', ← List.isPrefixOf_iff_prefix,
    Bool.not_eq_true]

/-- ASCII `\w`: letters, digits, underscore (the word class of the examples and witnesses) -/
def asciiWord (c : Char) : Bool := c.isAlphanum || c == '_'

end SuppModel.Text
