/-
  C11 — `find_id_loc`, for arbitrary delimiter sets: the loop returns the first delimited occurrence after the start
  offset (window level), and that occurrence is an occurrence in the line of the file that the returned
  position names (line level).
-/
import SuppModel.Text.Spec
import SuppModel.Text.Str

namespace SuppModel.Text

variable {startD endD : List Char} {w id : Str} {delims : Bool}

theorem OccAt.le_length {p : Nat} (h : OccAt startD endD w id delims p) : p ≤ w.length :=
  Nat.le_trans (Nat.le_add_right _ _) h.2.1

theorem findLoop_succ (startD endD : List Char) (source id : Str) (delims : Bool) (fuel pos : Nat) :
    findLoop startD endD source id delims (fuel + 1) pos =
      match pyFind source id (pos + 1) with
      | none => none
      | some p =>
        if leftOk startD source delims p && rightOk endD source delims (p + id.length) then some p
        else findLoop startD endD source id delims fuel p := by
  rw [findLoop]
  cases pyFind source id (pos + 1) with
  | none => rfl
  | some p =>
    have key : ∀ (a b : Bool) (x y : Option Nat),
        (if a = true then (if b = true then x else y) else y) = (if (a && b) = true then x else y) := by
      intro a b x y; cases a <;> cases b <;> rfl
    exact key (leftOk startD source delims p) (rightOk endD source delims (p + id.length)) _ _

theorem occAt_of_find {st p : Nat} (h : pyFind w id st = some p) :
    OccAt startD endD w id delims p ↔
      (leftOk startD w delims p && rightOk endD w delims (p + id.length)) = true := by
  rw [pyFind_some] at h
  rw [← occAt_iff, occAt, List.isPrefixOf_iff_prefix.2 h.2.2.1, decide_eq_true h.2.1, Bool.true_and, Bool.true_and]

theorem findLoop_spec (startD endD : List Char) (w id : Str) (delims : Bool) (fuel pos : Nat) :
    match findLoop startD endD w id delims fuel pos with
    | some p => pos < p ∧ OccAt startD endD w id delims p ∧ ∀ q, pos < q → q < p → ¬ OccAt startD endD w id delims q
    | none => w.length + 1 ≤ fuel + pos → ∀ q, pos < q → ¬ OccAt startD endD w id delims q := by
  -- every iteration moves `pos` to the right, so `w.length + 1 ≤ fuel + pos` is kept; out of fuel, `pos` is past the text
  induction fuel generalizing pos with
  | zero =>
    intro hlen q hq ho
    have := ho.le_length
    omega
  | succ fuel ih =>
    rw [findLoop_succ]
    cases hf : pyFind w id (pos + 1) with
    | none =>
      intro _ q hq ho
      exact (pyFind_none _ _ _).1 hf q hq ho.le_length ho.1
    | some p' =>
      obtain ⟨hp', -, -, hbefore⟩ := (pyFind_some _ _ _ _).1 hf
      by_cases hc : (leftOk startD w delims p' && rightOk endD w delims (p' + id.length)) = true
      · simp only [if_pos hc]
        exact ⟨hp', (occAt_of_find hf).2 hc, fun q h1 h2 ho => hbefore q h1 h2 ho.1⟩
      · have hskip : ∀ q, pos < q → q ≤ p' → ¬ OccAt startD endD w id delims q := by
          intro q h1 h2 ho
          rcases Nat.lt_or_eq_of_le h2 with h | rfl
          · exact hbefore q h1 h ho.1
          · exact hc ((occAt_of_find hf).1 ho)
        simp only [if_neg hc]
        have := ih p'
        revert this
        cases findLoop startD endD w id delims fuel p' with
        | some p =>
          exact fun this => ⟨Nat.lt_trans hp' this.1, this.2.1,
            fun q h1 h2 => (Nat.lt_or_ge p' q).elim (fun h => this.2.2 q h h2) (hskip q h1)⟩
        | none =>
          exact fun this hlen q h1 => (Nat.lt_or_ge p' q).elim (this (by omega) q) (hskip q h1)

theorem lineCol_noNl (l : Str) (p : Nat) (hl : '\n' ∉ l.take p) (hp : p ≤ l.length) : lineCol l p = (0, p) := by
  have h2 : (l.take p).reverse.takeWhile (· != '\n') = (l.take p).reverse :=
    takeWhile_ne_of_not_mem _ _ (by simpa using hl)
  rw [lineCol, List.count_eq_zero.2 hl, h2, List.length_reverse, List.length_take, Nat.min_eq_left hp]

theorem lineCol_line_zero (w : Str) (p : Nat) (hp : p ≤ w.length) (h : (lineCol w p).1 = 0) : (lineCol w p).2 = p := by
  rw [lineCol_noNl w p (List.count_eq_zero.1 h) hp]

theorem lineCol_append_left (l X : Str) (p : Nat) (hl : '\n' ∉ l) (hp : p ≤ l.length) :
    lineCol (l ++ X) p = (0, p) := by
  apply lineCol_noNl
  · rw [List.take_append_of_le_length hp]
    exact fun h => hl (List.mem_of_mem_take h)
  · rw [List.length_append]; omega

theorem lineCol_append_right (l X : Str) (p' : Nat) (hl : '\n' ∉ l) :
    lineCol (l ++ '\n' :: X) (l.length + 1 + p') = ((lineCol X p').1 + 1, (lineCol X p').2) := by
  have ht : (l ++ '\n' :: X).take (l.length + 1 + p') = l ++ '\n' :: X.take p' := by
    rw [List.take_append, List.take_of_length_le (by omega),
      show l.length + 1 + p' - l.length = p' + 1 by omega, List.take_succ_cons]
  have hr : (l ++ '\n' :: X.take p').reverse = (X.take p').reverse ++ '\n' :: l.reverse := by simp
  rw [lineCol, ht, hr, takeWhile_append_stop _ _ _ (by simp)]
  simp [lineCol, List.count_append, List.count_eq_zero.2 hl]

/-- the column expression of `find_id_loc`: `pos - source.rfind('\n', 0, pos) - 1 + shift` -/
theorem col_eq {w : Str} {p : Nat} (shift : Nat) (hp : p ≤ w.length) :
    Int.toNat ((p : Int) - rfindChar '\n' (w.take p) - 1 + shift) = (lineCol w p).2 + shift := by
  have h := (rfindChar_takeWhile '\n' (w.take p)).2
  rw [List.length_take, Nat.min_eq_left hp] at h
  simp only [lineCol]
  omega

/-- a found result differs from `start`: same line ⇒ larger column, else larger line -/
theorem found_ne_start {w : Str} {start : Nat × Nat} {p : Nat} (shift : Nat) (hp : p ≤ w.length) (hlt : start.2 < p) :
    (start.1 + (lineCol w p).1, (lineCol w p).2 + shift) ≠ start := by
  intro e
  have e1 : start.1 + (lineCol w p).1 = start.1 := congrArg Prod.fst e
  have e2 : (lineCol w p).2 + shift = start.2 := congrArg Prod.snd e
  have := lineCol_line_zero w p hp (by omega)
  omega

theorem findIdLocWith_cases (startD endD : List Char) (lines : List Str) (id : Str) (start : Nat × Nat)
    (shift : Nat) (delims : Bool) :
    (findIdLocWith startD endD lines id start shift delims = start ∧
      ∀ p, start.2 < p → ¬ OccAt startD endD (window lines start.1) id delims p) ∨
    ∃ p, start.2 < p ∧ OccAt startD endD (window lines start.1) id delims p ∧
      (∀ q, start.2 < q → q < p → ¬ OccAt startD endD (window lines start.1) id delims q) ∧
      findIdLocWith startD endD lines id start shift delims =
        (start.1 + (lineCol (window lines start.1) p).1, (lineCol (window lines start.1) p).2 + shift) := by
  have hspec := findLoop_spec startD endD (window lines start.1) id delims ((window lines start.1).length + 1) start.2
  rw [findIdLocWith]
  revert hspec
  cases findLoop startD endD (window lines start.1) id delims ((window lines start.1).length + 1) start.2 with
  | none => exact fun hspec => Or.inl ⟨rfl, hspec (by omega)⟩
  | some p =>
    exact fun hspec => Or.inr ⟨p, hspec.1, hspec.2.1, hspec.2.2,
      congrArg (Prod.mk _) (col_eq shift hspec.2.1.le_length)⟩

theorem OccAt.of_append_stop {l X : Str} {x : Char} {p : Nat} (hx : x ∉ id) (hp : p ≤ l.length)
    (h : OccAt startD endD (l ++ x :: X) id delims p) : OccAt startD endD l id delims p := by
  obtain ⟨hpre, -, hL, hR⟩ := h
  rw [List.drop_append_of_le_length hp] at hpre
  have hpre := prefix_of_append_stop x X _ _ hx hpre
  have hlen := hpre.length_le
  rw [List.length_drop] at hlen
  refine ⟨hpre, by omega, ?_, ?_⟩
  · rcases Nat.eq_zero_or_pos p with h0 | h0
    · exact fun _ => Or.inl h0
    · rwa [List.getElem?_append_left (by omega)] at hL
  · rcases Nat.lt_or_ge (p + id.length) l.length with hlt | hge
    · rw [List.getElem?_append_left hlt] at hR
      exact fun hd => Or.inr ((hR hd).resolve_left (by rw [List.length_append]; omega))
    · exact fun _ => Or.inl hge

theorem OccAt.of_append_right {A X : Str} {p : Nat}
    (h : OccAt startD endD (A ++ X) id delims (A.length + p)) : OccAt startD endD X id delims p := by
  obtain ⟨hpre, hlen, hL, hR⟩ := h
  rw [List.length_append, Nat.add_assoc, Nat.add_le_add_iff_left] at hlen hR
  rw [List.getElem?_append_right (Nat.le_add_right _ _), Nat.add_sub_cancel_left] at hR
  refine ⟨by rwa [List.drop_length_add_append] at hpre, hlen, ?_, hR⟩
  rcases Nat.eq_zero_or_pos p with h0 | h0
  · exact fun _ => Or.inl h0
  · rw [Nat.add_sub_assoc h0, List.getElem?_append_right (Nat.le_add_right _ _), Nat.add_sub_cancel_left] at hL
    exact fun hd => (hL hd).imp_left (by omega)

theorem OccAt.of_joinNl (hid : '\n' ∉ id) (ls : List Str) (hl : ∀ l ∈ ls, '\n' ∉ l) (hne : ls ≠ []) (p : Nat)
    (ho : OccAt startD endD (joinNl ls) id delims p) :
    ∃ l, ls[(lineCol (joinNl ls) p).1]? = some l ∧ OccAt startD endD l id delims (lineCol (joinNl ls) p).2 := by
  induction ls generalizing p with
  | nil => exact absurd rfl hne
  | cons l r ih =>
    have hnl : '\n' ∉ l := hl l List.mem_cons_self
    cases r with
    | nil =>
      rw [joinNl, lineCol_noNl l p (fun h => hnl (List.mem_of_mem_take h)) ho.le_length]
      exact ⟨l, rfl, ho⟩
    | cons l' r =>
      rw [joinNl] at ho ⊢
      by_cases hpl : p ≤ l.length
      · rw [lineCol_append_left l _ p hnl hpl]
        exact ⟨l, rfl, ho.of_append_stop hid hpl⟩
      · obtain ⟨p', rfl⟩ : ∃ p', p = l.length + 1 + p' := ⟨p - l.length - 1, by omega⟩
        rw [lineCol_append_right l _ p' hnl]
        rw [List.append_cons, show l.length + 1 + p' = (l ++ ['\n']).length + p' by simp] at ho
        exact ih (fun x hx => hl x (List.mem_cons_of_mem _ hx)) (List.cons_ne_nil _ _) p' ho.of_append_right

theorem pySlice_getElem? {α} (lines : List α) (sl n k : Nat) (l : α) (hs : 1 ≤ sl)
    (h : (pySlice lines (sl - 1) (sl + n))[k]? = some l) :
    lines[sl + k - 1]? = some l ∧ sl + k ≤ lines.length ∧ k ≤ n := by
  rw [pySlice, List.getElem?_drop, List.getElem?_take, ← Nat.sub_add_comm hs] at h
  split at h
  · have := (List.getElem?_eq_some_iff.1 h).1
    exact ⟨h, by omega, by omega⟩
  · cases h

theorem findIdLocWith_found (startD endD : List Char) (lines : List Str) (id : Str) (start : Nat × Nat)
    (shift : Nat) (delims : Bool)
    (hl : ∀ l ∈ lines, '\n' ∉ l) (hid : '\n' ∉ id) (hs : 1 ≤ start.1)
    (h : findIdLocWith startD endD lines id start shift delims ≠ start) :
    ∃ k c l, findIdLocWith startD endD lines id start shift delims = (start.1 + k, c + shift) ∧
      lines[start.1 + k - 1]? = some l ∧ start.1 + k ≤ lines.length ∧ k ≤ Generated.windowAfter ∧
      (k = 0 → start.2 < c) ∧ OccAt startD endD l id delims c := by
  rcases findIdLocWith_cases startD endD lines id start shift delims with ⟨e, -⟩ | ⟨p, hp1, hocc, -, hR⟩
  · exact absurd e h
  · rw [window] at hocc hR
    have hmem : ∀ l ∈ pySlice lines (start.1 - 1) (start.1 + Generated.windowAfter), '\n' ∉ l :=
      fun l hl' => hl l (List.mem_of_mem_take (List.mem_of_mem_drop hl'))
    have hple := hocc.le_length
    have hne : pySlice lines (start.1 - 1) (start.1 + Generated.windowAfter) ≠ [] := by
      intro e
      rw [e] at hple
      -- the empty window is the empty text, and `p` is positive
      exact Nat.not_lt_zero _ (Nat.lt_of_lt_of_le hp1 hple)
    obtain ⟨l, g1, g2⟩ := hocc.of_joinNl hid _ hmem hne p
    obtain ⟨e1, e2, e3⟩ := pySlice_getElem? lines start.1 _ _ l hs g1
    exact ⟨_, _, l, hR, e1, e2, e3, fun hk => by rw [lineCol_line_zero _ p hple hk]; exact hp1, g2⟩

end SuppModel.Text
