/-
  C12 — the proposals: `sorted` over Python's `<=` on `str`, the keys of a dict, the filter on the mark.
-/
import SuppModel.Text.Str

namespace SuppModel.Text

theorem strLe_trans (a b c : Str) (h1 : strLe a b = true) (h2 : strLe b c = true) : strLe a c = true :=
  (strLe_iff_le a c).2 (List.le_trans ((strLe_iff_le a b).1 h1) ((strLe_iff_le b c).1 h2))

theorem strLe_total (a b : Str) : strLe a b = true ∨ strLe b a = true :=
  (List.le_total a b).imp (strLe_iff_le a b).2 (strLe_iff_le b a).2

theorem insertStr_perm (x : Str) (l : List Str) : (insertStr x l).Perm (x :: l) := by
  induction l with
  | nil => exact List.Perm.refl _
  | cons y t ih =>
    rw [insertStr]
    split
    · exact List.Perm.refl _
    · exact (List.Perm.cons y ih).trans (List.Perm.swap x y t)

theorem insertStr_sorted (x : Str) (l : List Str) (h : l.Pairwise (fun a b => strLe a b = true)) :
    (insertStr x l).Pairwise (fun a b => strLe a b = true) := by
  induction l with
  | nil => exact List.pairwise_singleton _ _
  | cons y t ih =>
    rw [insertStr]
    rw [List.pairwise_cons] at h
    split
    · next hxy =>
      refine List.pairwise_cons.mpr ⟨fun z hz => ?_, List.pairwise_cons.mpr h⟩
      rcases List.mem_cons.mp hz with rfl | hz
      · exact hxy
      · exact strLe_trans _ _ _ hxy (h.1 z hz)
    · next hxy =>
      refine List.pairwise_cons.mpr ⟨fun z hz => ?_, ih h.2⟩
      rcases List.mem_cons.mp ((insertStr_perm x t).mem_iff.mp hz) with rfl | hz
      · exact (strLe_total z y).resolve_left hxy
      · exact h.1 z hz

theorem sortStr_perm (l : List Str) : (sortStr l).Perm l := by
  induction l with
  | nil => exact List.Perm.refl _
  | cons x t ih => exact (insertStr_perm x _).trans (List.Perm.cons x ih)

theorem sortStr_sorted (l : List Str) : (sortStr l).Pairwise (fun a b => strLe a b = true) := by
  induction l with
  | nil => exact List.Pairwise.nil
  | cons x t ih => exact insertStr_sorted x _ ih

theorem nodup_eraseDups {α} [BEq α] [LawfulBEq α] (l : List α) : l.eraseDups.Nodup := by
  generalize hn : l.length = n
  induction n using Nat.strongRecOn generalizing l with
  | _ n ih =>
    cases l with
    | nil => simp
    | cons a t =>
      rw [List.eraseDups_cons, List.nodup_cons]
      refine ⟨?_, ih _ ?_ _ rfl⟩
      · simp [List.mem_eraseDups]
      · subst hn
        exact Nat.lt_succ_of_le (List.length_filter_le _ t)

theorem mem_keys {α} (t : List (Str × α)) (n : Str) : n ∈ keys t ↔ ∃ v, (n, v) ∈ t := by
  simp [keys, List.mem_eraseDups]

theorem proposals_perm {α} (t : List (Str × α)) :
    (proposals t).Perm ((keys t).filter (fun n => !marked n)) := sortStr_perm _

theorem proposals_mem {α} (t : List (Str × α)) (n : Str) :
    n ∈ proposals t ↔ (∃ v, (n, v) ∈ t) ∧ marked n = false := by
  rw [(proposals_perm t).mem_iff, List.mem_filter, mem_keys, Bool.not_eq_true']

end SuppModel.Text
