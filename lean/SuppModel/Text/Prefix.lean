/-
  C12 — the prefix: `identSuffix p` (the specification) cuts a text after its last character outside `p`;
  the last piece of `re.split`, `rpartition(c)[2]` and the `from`-branch regex all compute such a cut.
-/
import SuppModel.Text.Spec
import SuppModel.Text.Str

namespace SuppModel.Text

theorem identSuffix_of_all (p : Char → Bool) (l : Str) (h : l.all p = true) : identSuffix p l = l := by
  cases l with
  | nil => rfl
  | cons c t => rw [identSuffix, if_pos h]

theorem identSuffix_cons_of_not_all (p : Char → Bool) (c : Char) (t : Str) (h : (c :: t).all p = false) :
    identSuffix p (c :: t) = identSuffix p t := by
  rw [identSuffix, if_neg (by rw [h]; exact Bool.false_ne_true)]

theorem identSuffix_suffix (p : Char → Bool) (l : Str) : identSuffix p l <:+ l := by
  induction l with
  | nil => exact List.suffix_refl _
  | cons c t ih =>
    rw [identSuffix]
    split
    · exact List.suffix_refl _
    · exact ih.trans (List.suffix_cons c t)

theorem identSuffix_all (p : Char → Bool) (l : Str) : (identSuffix p l).all p = true := by
  induction l with
  | nil => rfl
  | cons c t ih =>
    rw [identSuffix]
    split
    · assumption
    · exact ih

theorem identSuffix_append_stop (p : Char → Bool) (c : Char) (s : Str) (hc : p c = false) :
    ∀ pre : Str, identSuffix p (pre ++ c :: s) = identSuffix p s
  | [] => identSuffix_cons_of_not_all p c s (by rw [List.all_cons, hc, Bool.false_and])
  | a :: pre => by
    rw [List.cons_append, identSuffix_cons_of_not_all, identSuffix_append_stop p c s hc pre]
    rw [List.all_cons, List.all_append, List.all_cons, hc, Bool.false_and, Bool.and_false, Bool.and_false]

theorem identSuffix_maximal (p : Char → Bool) (l : Str) :
    identSuffix p l = l ∨ ∃ pre c, l = pre ++ c :: identSuffix p l ∧ p c = false := by
  induction l with
  | nil => exact Or.inl rfl
  | cons c t ih =>
    by_cases h : (c :: t).all p = true
    · exact Or.inl (identSuffix_of_all p _ h)
    · rw [identSuffix_cons_of_not_all p c t (Bool.eq_false_iff.2 h)]
      rcases ih with e | ⟨pre, d, e, hd⟩
      · refine Or.inr ⟨[], c, by rw [e]; rfl, Bool.eq_false_iff.2 fun hc => h ?_⟩
        rw [List.all_cons, hc, ← e, identSuffix_all, Bool.and_self]
      · exact Or.inr ⟨c :: pre, d, by rw [List.cons_append, ← e], hd⟩

theorem identSuffix_longest (p : Char → Bool) (l s : Str) (hs : s <:+ l) (ha : s.all p = true) :
    s.length ≤ (identSuffix p l).length := by
  induction l with
  | nil => rw [List.suffix_nil.1 hs]; exact Nat.zero_le _
  | cons c t ih =>
    rcases List.suffix_cons_iff.1 hs with rfl | h
    · rw [identSuffix_of_all p _ ha]; exact Nat.le_refl _
    · rw [identSuffix]
      split
      · exact Nat.le_succ_of_le h.length_le
      · exact ih h

theorem identSuffix_identSuffix_of_imp (p q : Char → Bool) (l : Str) (h : ∀ c, q c = false → p c = false) :
    identSuffix p (identSuffix q l) = identSuffix p l := by
  rcases identSuffix_maximal q l with e | ⟨pre, c, e, hc⟩
  · rw [e]
  · conv => rhs; rw [e, identSuffix_append_stop p c _ (h c hc)]

theorem identSuffix_eq_of_all (p q : Char → Bool) (l : Str) (hq : ∀ c, q c = false → p c = false)
    (h : (identSuffix q l).all p = true) : identSuffix q l = identSuffix p l := by
  rw [← identSuffix_identSuffix_of_imp p q l hq, identSuffix_of_all p _ h]

theorem identSuffix_identSuffix (p q : Char → Bool) (l : Str) :
    identSuffix p (identSuffix q l) = identSuffix (fun c => q c && p c) l := by
  have hr : (identSuffix p (identSuffix q l)).all (fun c => q c && p c) = true := by
    have hp := identSuffix_all p (identSuffix q l)
    have hq := identSuffix_all q l
    rw [List.all_eq_true] at hp hq ⊢
    exact fun x hx => Bool.and_eq_true_iff.2 ⟨hq x ((identSuffix_suffix p _).subset hx), hp x hx⟩
  rw [← identSuffix_of_all _ _ hr, identSuffix_identSuffix_of_imp _ p _ fun c hc => by rw [hc, Bool.and_false],
    identSuffix_identSuffix_of_imp _ q l fun c hc => by rw [hc]; rfl]

theorem splitBy_ne_nil (sep : Char → Bool) (l : Str) : splitBy sep l ≠ [] := by
  cases l with
  | nil => exact List.cons_ne_nil _ _
  | cons c t =>
    rw [splitBy]
    split
    · exact List.cons_ne_nil _ _
    · split <;> exact List.cons_ne_nil _ _

theorem splitBy_all_not (sep : Char → Bool) (l : Str) (h : l.all (fun c => !sep c) = true) :
    splitBy sep l = [l] := by
  induction l with
  | nil => rfl
  | cons c t ih =>
    rw [List.all_cons, Bool.and_eq_true, Bool.not_eq_true'] at h
    rw [splitBy, h.1, ih h.2]
    rfl

theorem splitBy_append_sep (sep : Char → Bool) (c : Char) (s : Str) (hc : sep c = true) :
    ∀ pre : Str, splitBy sep (pre ++ c :: s) = splitBy sep pre ++ splitBy sep s
  | [] => by simp only [List.nil_append, splitBy, hc, if_true, List.cons_append]
  | a :: pre => by
    obtain ⟨x, r, h⟩ := List.exists_cons_of_ne_nil (splitBy_ne_nil sep pre)
    rw [List.cons_append, splitBy, splitBy, splitBy_append_sep sep c s hc pre, h]
    split <;> rfl

theorem splitBy_getLastD (sep : Char → Bool) (l : Str) :
    (splitBy sep l).getLastD [] = identSuffix (fun c => !sep c) l := by
  have hall := identSuffix_all (fun c => !sep c) l
  rcases identSuffix_maximal (fun c => !sep c) l with e | ⟨pre, c, e, hc⟩
  · rw [e] at hall ⊢
    rw [splitBy_all_not sep l hall]; rfl
  · conv => lhs; rw [e]
    rw [splitBy_append_sep sep c _ (by simpa using hc), splitBy_all_not sep _ hall, List.getLastD_concat]

theorem prefixOf_eq (isWord : Char → Bool) (line : Str) : prefixOf isWord line = identSuffix isWord line := by
  rw [prefixOf, splitBy_getLastD]
  simp only [Generated.isSep, Bool.not_not]

theorem afterLast_eq_identSuffix (c : Char) (s : Str) : afterLast c s = identSuffix (· != c) s := by
  induction s with
  | nil => rfl
  | cons x t ih =>
    have ht : t.all (· != c) = true ↔ c ∉ t := by
      simp only [List.all_eq_true, bne_iff_ne, ne_eq]
      exact ⟨fun h hc => h c hc rfl, fun h x hx e => h (e ▸ hx)⟩
    -- both sides branch on `c ∈ t`, then on `x = c`
    by_cases hc : c ∈ t <;> by_cases hx : x = c <;>
      simp [afterLast, identSuffix, hc, hx, ih, ht, identSuffix_of_all]

theorem dropWhile_decomp {α} (p : α → Bool) (l : List α) (h : (l.dropWhile p).length < l.length) :
    ∃ pre w, l = pre ++ w :: l.dropWhile p ∧ p w = true := by
  have hne : l.takeWhile p ≠ [] := fun e => by
    have hl := congrArg List.length (List.takeWhile_append_dropWhile (p := p) (l := l))
    rw [e, List.nil_append] at hl
    exact Nat.lt_irrefl _ (hl ▸ h)
  refine ⟨(l.takeWhile p).dropLast, (l.takeWhile p).getLast hne, ?_,
    List.all_eq_true.1 List.all_takeWhile _ (List.getLast_mem hne)⟩
  rw [List.append_cons, List.dropLast_concat_getLast, List.takeWhile_append_dropWhile]

theorem fromMatch_shape (isWord : Char → Bool) (line m : Str) (h : fromMatch isWord line = some m) :
    (∃ pre w, line = pre ++ w :: m ∧ pyIsSpace w = true) ∧ m.all (fun c => isWord c || c == '.') = true := by
  simp only [fromMatch, Generated.fromModule] at h
  split at h
  · next hfrom =>
    split at h
    · next hm =>
      obtain rfl := Option.some.inj h
      obtain ⟨u, hu⟩ := List.isPrefixOf_iff_prefix.1 hfrom
      have hd : (line.dropWhile pyIsSpace).drop 4 = u := by rw [← hu]; rfl
      rw [hd, Bool.and_eq_true, decide_eq_true_eq] at hm
      rw [hd]
      obtain ⟨pre, w, e, hw⟩ := dropWhile_decomp pyIsSpace u hm.1
      refine ⟨⟨line.takeWhile pyIsSpace ++ ['f', 'r', 'o', 'm'] ++ pre, w, ?_, hw⟩, hm.2⟩
      rw [List.append_assoc, List.append_assoc, ← e, hu, List.takeWhile_append_dropWhile]
    · cases h
  · cases h

theorem fromPrefixOf_eq_identSuffix (isWord : Char → Bool) (line m : Str)
    (hsp : ∀ c, pyIsSpace c = true → isWord c = false) (hdot : isWord Generated.fromSep2 = false)
    (h : fromMatch isWord line = some m) : fromPrefixOf m = identSuffix isWord line := by
  obtain ⟨⟨pre, w, rfl, hw⟩, hall⟩ := fromMatch_shape isWord _ m h
  rw [fromPrefixOf, rpartition_tail, afterLast_eq_identSuffix, identSuffix_append_stop isWord w m (hsp w hw)]
  refine identSuffix_eq_of_all isWord _ m (fun c hc => (bne_eq_false_iff_eq.1 hc) ▸ hdot) ?_
  -- the characters after the last dot of `m` are word characters or dots, and not dots
  have hnd := identSuffix_all (· != Generated.fromSep2) m
  rw [List.all_eq_true] at hnd hall ⊢
  intro x hx
  exact (Bool.or_eq_true_iff.1 (hall x ((identSuffix_suffix _ m).subset hx))).resolve_right (bne_iff_ne.1 (hnd x hx) ∘ beq_iff_eq.1)

theorem fromPrefixLegacy_eq_identSuffix (line : Str) :
    fromPrefixLegacy line = identSuffix (fun c => !(c == legacyFromSep1 || c == Generated.fromSep2)) line := by
  simp only [fromPrefixLegacy, rpartition_tail, afterLast_eq_identSuffix, identSuffix_identSuffix, bne, Bool.not_or]

theorem fromPrefixLegacy_eq_split (line : Str) :
    fromPrefixLegacy line =
      (splitBy (fun c => c == legacyFromSep1 || c == Generated.fromSep2) line).getLastD [] := by
  rw [fromPrefixLegacy_eq_identSuffix, splitBy_getLastD]

theorem fromPrefixLegacy_iff (isWord : Char → Bool) (line : Str)
    (hsp : isWord legacyFromSep1 = false) (hdot : isWord Generated.fromSep2 = false) :
    fromPrefixLegacy line = identSuffix isWord line ↔ (fromPrefixLegacy line).all isWord = true := by
  constructor
  · intro h; rw [h]; exact identSuffix_all _ _
  · rw [fromPrefixLegacy_eq_identSuffix]
    refine identSuffix_eq_of_all isWord _ line fun c hc => ?_
    rw [Bool.not_eq_false', Bool.or_eq_true, beq_iff_eq, beq_iff_eq] at hc
    rcases hc with rfl | rfl
    · exact hsp
    · exact hdot

theorem asciiWord_not_space (c : Char) (h : pyIsSpace c = true) : asciiWord c = false := by
  -- whitespace lies below `'0'` or above `'z'`
  have hs : c.val.toNat ≤ 32 ∨ 133 ≤ c.val.toNat := by
    simp only [pyIsSpace, Char.toNat, Bool.or_eq_true, Bool.and_eq_true, decide_eq_true_eq, beq_iff_eq] at h
    omega
  rw [Bool.eq_false_iff]
  intro hw
  simp only [asciiWord, Char.isAlphanum, Char.isAlpha, Char.isUpper, Char.isLower, Char.isDigit, Bool.or_eq_true,
    Bool.and_eq_true, decide_eq_true_eq, beq_iff_eq, ge_iff_le, UInt32.le_iff_toNat_le, Char.reduceVal,
    UInt32.reduceToNat] at hw
  rcases hw with hw | rfl
  · omega
  · revert hs; decide

end SuppModel.Text
