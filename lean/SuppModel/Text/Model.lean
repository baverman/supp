/-
  Text family — executable model of the text-level code of supp that C11 and C12 are anchored in:

    supp/scope.py      SourceScope.find_id_loc, the call sites in FuncScope / ClassScope
    supp/nast.py       visit_Import / visit_ImportFrom (call sites)
    supp/assistant.py  the three prefix computations of `assist`, the proposal expression,
                       `location()._loc`; supp/linter.py: the W01/W02 report tuple
    supp/util.py       Source.__init__ (mark insertion), unmark, marked, split_pkg, join_pkg

  A Python `str` is a `List Char` (sequence of code points).  Constants (delimiter sets, the mark, the
  window, the prefix regex, the call-site arguments) come from `Generated/Text.lean`, regenerated from
  the source on every run.  Parameters of the model (outside the code): the word-character class `\w`
  of Python's `re` (`isWord`), CPython's parser (callers pass `np(node)` and the bound name).
  `util.splitlines` is modelled (`splitlines`); the class `\s` of `re` is the table `pyIsSpace`.
-/
import SuppModel.Generated.Text

namespace SuppModel.Text

abbrev Str := List Char

inductive PyErr where
  | indexError
  deriving DecidableEq, Repr

/-! ## Python `str` primitives -/

/-- scan for the first position (counted from `i`) at which `sub` is a prefix of the rest -/
def findAux (sub : Str) : Str → Nat → Option Nat
  | [], i => if sub.isPrefixOf [] then some i else none
  | c :: t, i => if sub.isPrefixOf (c :: t) then some i else findAux sub t (i + 1)

/-- `s.find(sub, start)` for `start ≥ 0`; `none` is Python's `-1`.  (`start > len(s)` gives `-1`,
    also for the empty `sub`; `start = len(s)` finds the empty `sub` only.) -/
def pyFind (s sub : Str) (start : Nat) : Option Nat :=
  if start ≤ s.length then findAux sub (s.drop start) start else none

/-- Python's normalisation of a slice / search index against a length: negative counts from the end, clipped -/
def pyIdx (len : Nat) (i : Int) : Nat :=
  if i < 0 then (Int.toNat (len + i)) else min i.toNat len

/-- `s[:i]` -/
def sliceTo (s : Str) (i : Int) : Str := s.take (pyIdx s.length i)
/-- `s[i:]` -/
def sliceFrom (s : Str) (i : Int) : Str := s.drop (pyIdx s.length i)

/-- `s.find(sub, start)` with a possibly negative `start`, result as a Python int -/
def pyFindI (s sub : Str) (start : Int) : Int :=
  let st : Nat := if start < 0 then Int.toNat (s.length + start) else start.toNat
  match pyFind s sub st with
  | some p => p
  | none => -1

/-- `s.rfind(c)` for a one-character `c` over the whole of `s` (callers pass `s[0:stop]`) -/
def rfindChar (c : Char) : Str → Int
  | [] => -1
  | x :: t =>
    let r := rfindChar c t
    if 0 ≤ r then r + 1 else if x = c then 0 else -1

/-- `l[a:b]` for `0 ≤ a`, `0 ≤ b` -/
def pySlice {α} (l : List α) (a b : Nat) : List α := (l.take b).drop a

/-- `'\n'.join(lines)` -/
def joinNl : List Str → Str
  | [] => []
  | [l] => l
  | l :: l' :: r => l ++ '\n' :: joinNl (l' :: r)

/-- `re.split(p, s)` for a pattern `p` = alternatives of one-character separators `sep`, with `\r\n` as one separator when
    `crlf`: `cr` says that the previous character was a `\r` that already split (a `\n` right after it splits no more) -/
def splitNlAux (sep : Char → Bool) (crlf : Bool) : Bool → Str → List Str
  | _, [] => [[]]
  | cr, c :: t =>
    if c = '\n' ∧ cr = true ∧ crlf = true then splitNlAux sep crlf false t
    else if sep c then [] :: splitNlAux sep crlf (c == '\r') t
    else match splitNlAux sep crlf false t with
      | h :: r => (c :: h) :: r
      | [] => [[c]]

/-- split into lines at the separators `sep`, dropping one trailing empty line -/
def splitlinesWith (sep : Char → Bool) (crlf : Bool) (s : Str) : List Str :=
  let ls := splitNlAux sep crlf false s
  if ls.getLast? = some [] then ls.dropLast else ls

/-- `util.splitlines(source)`: the lines as the parser counts them -/
def splitlines (s : Str) : List Str := splitlinesWith Generated.isLineSep Generated.crlfIsOne s

/-- legacy (before f8cda8c): `str.splitlines`, which also breaks at VT, FF, FS, GS, RS, NEL, LS, PS -/
def legacyLineSep (c : Char) : Bool :=
  c == '\n' || c == '\r' || c == '\x0b' || c == '\x0c' || c == '\x1c' || c == '\x1d' || c == '\x1e' ||
  c == '\x85' || c == '\u2028' || c == '\u2029'

def splitlinesLegacy (s : Str) : List Str := splitlinesWith legacyLineSep true s

/-- `s.rpartition(c)[2]` for a one-character separator: the text after the last `c`, or all of `s` -/
def afterLast (c : Char) : Str → Str
  | [] => []
  | x :: t => if c ∈ t then afterLast c t else if x = c then t else x :: t

/-- `s.rpartition(c)` for a one-character separator -/
def rpartition (c : Char) (s : Str) : Str × Str × Str :=
  if c ∈ s then
    let tail := afterLast c s
    (s.take (s.length - tail.length - 1), [c], tail)
  else ([], [], s)

/-- `str.isspace` per character (what `lstrip()` removes) -/
def pyIsSpace (c : Char) : Bool :=
  let n := c.toNat
  (9 ≤ n && n ≤ 13) || (28 ≤ n && n ≤ 32) || n == 0x85 || n == 0xa0 || n == 0x1680 ||
  (0x2000 ≤ n && n ≤ 0x200a) || n == 0x2028 || n == 0x2029 || n == 0x202f || n == 0x205f || n == 0x3000

def lstrip (s : Str) : Str := s.dropWhile pyIsSpace

/-- `s.strip('.')` -/
def stripDots (s : Str) : Str := ((s.dropWhile (· == '.')).reverse.dropWhile (· == '.')).reverse

/-- `sub in s` -/
def contains (s sub : Str) : Bool := (pyFind s sub 0).isSome

/-! ## C11: `find_id_loc` -/

/-- the `while True:` loop of find_id_loc on the joined window.  `fuel` bounds the number of iterations
    (every iteration moves `pos` strictly to the right, so `len(source) + 1` is always enough:
    `findLoop_spec` in Text/FindIdLoc). -/
def findLoop (startD endD : List Char) (source id : Str) (delims : Bool) : Nat → Nat → Option Nat
  | 0, _ => none
  | fuel + 1, pos =>
    match pyFind source id (pos + 1) with
    | none => none                                                          -- pos < 0: break
    | some p =>
      if p == 0 || !delims || (match source[p - 1]? with | some c => startD.contains c | none => false) then
        let ep := p + id.length
        if ep ≥ source.length || !delims || (match source[ep]? with | some c => endD.contains c | none => false) then
          some p
        else findLoop startD endD source id delims fuel p
      else findLoop startD endD source id delims fuel p

/-- the searched text: `'\n'.join(self.source.lines[sl-1:sl+50])` -/
def window (lines : List Str) (sl : Nat) : Str :=
  joinNl (pySlice lines (sl - 1) (sl + Generated.windowAfter))

/-- find_id_loc with explicit delimiter sets (the current and the legacy sets are instances) -/
def findIdLocWith (startD endD : List Char) (lines : List Str) (id : Str) (start : Nat × Nat)
    (shift : Nat) (delims : Bool) : Nat × Nat :=
  let source := window lines start.1
  match findLoop startD endD source id delims (source.length + 1) start.2 with
  | none => start
  | some pos =>
    (start.1 + (source.take pos).count '\n',
     Int.toNat ((pos : Int) - rfindChar '\n' (source.take pos) - 1 + shift))

/-- `SourceScope.find_id_loc(id, start, shift, delimeters)` over `self.source.lines = lines` -/
def findIdLoc (lines : List Str) (id : Str) (start : Nat × Nat) (shift : Nat) (delims : Bool) : Nat × Nat :=
  findIdLocWith Generated.importDelims Generated.importEndDelims lines id start shift delims

/-- `declared_at` of a def / class / import binding: the call its binding site makes -/
def declaredAt (site : Generated.CallSite) (lines : List Str) (name : Str) (start : Nat × Nat) : Nat × Nat :=
  findIdLoc lines (if site.spacePrefixed then ' ' :: name else name) start site.shift site.delims

/-! legacy variants (before commits 3df0373 and 50717df), kept for the witnesses -/

def legacyEndDelims : List Char := [' ', '\t', '\n', '\r', '\x0b', '\x0c', ')', ',', '.', ';']

/-- end delimiters between 3df0373 and 50717df: without `[` (PEP 695 type-parameter lists) -/
def pre695EndDelims : List Char := [' ', '\t', '\n', '\r', '\x0b', '\x0c', ')', ',', '.', ';', '(', ':', '#', '\\']

/-- def / class / import names before 50717df -/
def findIdLocPre695 (lines : List Str) (id : Str) (start : Nat × Nat) (shift : Nat) (delims : Bool) : Nat × Nat :=
  findIdLocWith Generated.importDelims pre695EndDelims lines id start shift delims

/-- import names before the fix: the same search with the shorter end-delimiter set -/
def findIdLocLegacy (lines : List Str) (id : Str) (start : Nat × Nat) (shift : Nat) (delims : Bool) : Nat × Nat :=
  findIdLocWith Generated.importDelims legacyEndDelims lines id start shift delims

/-- def / class names before the fix: `find_id_loc(' ' + name, np(node), 1, False)` -/
def declaredAtDefLegacy (lines : List Str) (name : Str) (start : Nat × Nat) : Nat × Nat :=
  findIdLocLegacy lines (' ' :: name) start 1 false

/-! ## C11: one `declared_at`, two reports -/

/-- what a binding carries (supp/name.py: `name`, `declared_at`, `filename`) -/
structure Binding where
  name : Str
  declaredAt : Nat × Nat
  filename : Str
  deriving DecidableEq, Repr

/-- `assistant._loc(location, filename)`: `{'loc': ..., 'file': ...}` -/
structure Loc where
  loc : Nat × Nat
  file : Str
  deriving DecidableEq, Repr

/-- before 4a16e68: the position as the analysis of the MARKED text has it -/
def locationEntryLegacy (b : Binding) : Loc := { loc := b.declaredAt, file := b.filename }

/-- `location().loc(n)`: location() analyses the text with the cursor mark inserted at `cursor`; a position in that
    file, on the cursor's line, right of the cursor is moved back by the length of the mark -/
def locationEntry (sourceFile : Str) (cursor : Nat × Nat) (b : Binding) : Loc :=
  let ln := b.declaredAt.1
  let col := b.declaredAt.2
  let col := if b.filename = sourceFile ∧ ln = cursor.1 ∧ col > cursor.2 then col - Generated.sourceMark.length else col
  { loc := (ln, col), file := b.filename }

/-- where a character at `p` of the unmarked text stands in the text marked at `cursor`
    (`markLine`: everything from the cursor column on moves right by the length of the mark) -/
def markedPos (cursor p : Nat × Nat) : Nat × Nat :=
  if p.1 = cursor.1 ∧ cursor.2 ≤ p.2 then (p.1, p.2 + Generated.sourceMark.length) else p

/-- linter: `(w, message.format(name.name), name.declared_at[0], name.declared_at[1], flow)` -/
structure LintEntry where
  code : Str
  message : Str
  line : Nat
  col : Nat
  deriving DecidableEq, Repr

def lintEntry (code msgPrefix : Str) (b : Binding) : LintEntry :=
  { code := code, message := msgPrefix ++ b.name, line := b.declaredAt.1, col := b.declaredAt.2 }

/-! ## C12: the prefix -/

/-- `re.split(p, s)` for a pattern `p` that matches exactly one character of class `sep`
    (no capture group): the maximal `sep`-free pieces, in order; never empty -/
def splitBy (sep : Char → Bool) : Str → List Str
  | [] => [[]]
  | c :: t =>
    if sep c then [] :: splitBy sep t
    else match splitBy sep t with
      | h :: r => (c :: h) :: r
      | [] => [[c]]

/-- `re.split(r'\W', line)[-1]` -/
def prefixOf (isWord : Char → Bool) (line : Str) : Str :=
  (splitBy (Generated.isSep isWord) line).getLastD []

/-- the specification: the longest suffix of `line` made of word characters -/
def identSuffix (isWord : Char → Bool) : Str → Str
  | [] => []
  | c :: t => if (c :: t).all isWord then c :: t else identSuffix isWord t

/-- legacy (before 056c5db): `re.split(r'(\.|\s|\()', line)[-1]`; a capture group adds the separators
    to the list but never changes its last element -/
def legacySep (c : Char) : Bool := c == '.' || pyIsSpace c || c == '('

def prefixOfLegacy (line : Str) : Str := (splitBy legacySep line).getLastD []

/-- the `from` branch of assist: `from_module = re.match(r'\s*from\s+([\w.]*)$', line)`; `group(1)` if it matches.
    (`\s` of `re` on str is `str.isspace` per character: `pyIsSpace`.) -/
def fromMatch (isWord : Char → Bool) (line : Str) : Option Str :=
  Generated.fromModule isWord pyIsSpace line

/-- its prefix: `package, sep, prefix = from_module.group(1).rpartition('.')` -/
def fromPrefixOf (m : Str) : Str := (rpartition Generated.fromSep2 m).2.2

/-- and the package whose sub-packages are listed -/
def fromPackageOf (m : Str) : Str :=
  let (package, sep, _) := rpartition Generated.fromSep2 m
  if (package.isEmpty || ['.'].isPrefixOf package) && !sep.isEmpty then package ++ ['.'] else package

/-- the first component of what `assist` returns, for the text left of the cursor -/
def assistPrefix (isWord : Char → Bool) (line : Str) : Str :=
  match fromMatch isWord line with
  | some m => fromPrefixOf m
  | none => prefixOf isWord line

/-! legacy `from` branch (before ab8463e): taken when `line.lstrip().startswith('from ') and ' import ' not in line`,
    prefix = `line.rpartition(' ')[2].rpartition('.')[2]` -/

def legacyFromKw : Str := ['f', 'r', 'o', 'm', ' ']
def legacyImportKw : Str := [' ', 'i', 'm', 'p', 'o', 'r', 't', ' ']
def legacyFromSep1 : Char := ' '

def fromBranchLegacy (line : Str) : Bool :=
  legacyFromKw.isPrefixOf (lstrip line) && !contains line legacyImportKw

def fromPrefixLegacy (line : Str) : Str :=
  (rpartition Generated.fromSep2 (rpartition legacyFromSep1 line).2.2).2.2

def assistPrefixLegacy (isWord : Char → Bool) (line : Str) : Str :=
  if fromBranchLegacy line then fromPrefixLegacy line else prefixOf isWord line

/-! ## C12: the mark -/

/-- `line[:col] + SOURCE_MARK + line[col:]` -/
def markLine (line : Str) (col : Nat) : Str :=
  line.take col ++ Generated.sourceMark ++ line.drop col

/-- `Source.__init__(source, filename, position)` with `lines0 = splitlines(source)`:
    the lines of the marked source (`self.lines`; `self.source` is their `joinNl`) -/
def markLines (lines0 : List Str) (ln col : Nat) : Except PyErr (List Str) :=
  let lines := if lines0.isEmpty then [[]] else lines0
  -- if ln > len(lines): lines.extend([''] * (ln - len(lines)))   (a cursor below the text)
  let lines := if ln > lines.length then lines ++ List.replicate (ln - lines.length) [] else lines
  -- lines[ln-1]: ln = 0 is index -1 (the last line)
  let i := if ln = 0 then lines.length - 1 else ln - 1
  match lines[i]? with
  | none => .error .indexError
  | some line => .ok (lines.set i (markLine line col))

/-- `Source(source, filename, (ln, col)).lines` -/
def markSource (source : Str) (ln col : Nat) : Except PyErr (List Str) := markLines (splitlines source) ln col

/-- `SOURCE_MARK in name` -/
def marked (name : Str) : Bool := contains name Generated.sourceMark

/-- `unmark(name)` -/
def unmark (name : Str) : Str :=
  let pos := pyFindI name Generated.sourceMark 0
  let result := sliceTo name pos ++ sliceFrom name (pos + Generated.sourceMark.length)
  let dpos := pyFindI result ['.'] pos
  if 0 ≤ dpos then sliceTo result dpos else result

/-- `join_pkg(package, module)` -/
def joinPkg (package module : Str) : Str :=
  if package.getLast? = some '.' then package ++ module else package ++ '.' :: module

/-- `split_pkg(package)` -/
def splitPkg (package : Str) : Str × Str :=
  if (stripDots package).isEmpty then (package, [])
  else
    let (head, sep, tail) := rpartition '.' package
    let head :=
      if head.isEmpty then (if !sep.isEmpty then sep else head)
      else if head.getLast? = some '.' then head ++ ['.'] else head
    (head, tail)

/-! ## C12: the proposals -/

/-- Python's `<=` on str: lexicographic on code points -/
def strLe : Str → Str → Bool
  | [], _ => true
  | _ :: _, [] => false
  | a :: s, b :: t => a.toNat < b.toNat || (a == b && strLe s t)

def insertStr (x : Str) : List Str → List Str
  | [] => [x]
  | y :: t => if strLe x y then x :: y :: t else y :: insertStr x t

/-- `sorted(xs)` for a list of str.  (`<=` on str is a total order whose equivalent elements are equal,
    so every sorting algorithm gives this list.) -/
def sortStr (xs : List Str) : List Str := xs.foldr insertStr []

/-- the keys of a name table (a dict: later entries with an equal key replace, never duplicate) -/
def keys {α} (table : List (Str × α)) : List Str := (table.map Prod.fst).eraseDups

/-- `sorted(n for n in names if not marked(n))` -/
def proposals {α} (table : List (Str × α)) : List Str :=
  sortStr ((keys table).filter (fun n => !marked n))

/-- the ASCII restriction of the properties: columns = code points = bytes -/
def asciiStr (s : Str) : Bool := s.all (fun c => c.toNat < 128)

end SuppModel.Text
