/-
  What the Python `str` primitives of the model compute: `find`, `in`, slices with `int` bounds, `rfind`,
  `rpartition`, `<=`.
-/
import SuppModel.Text.Model

namespace SuppModel.Text

theorem takeWhile_append_stop {α} (q : α → Bool) (x : α) (B : List α) (hx : q x = false) :
    ∀ A : List α, (A ++ x :: B).takeWhile q = A.takeWhile q
  | [] => by simp [hx]
  | a :: A => by simp only [List.cons_append, List.takeWhile_cons, takeWhile_append_stop q x B hx A]

theorem takeWhile_all {α} (q : α → Bool) (A : List α) (h : ∀ a ∈ A, q a = true) : A.takeWhile q = A := by
  simpa using List.takeWhile_append_of_pos (l₂ := []) h

theorem takeWhile_ne_of_not_mem (c : Char) (b : Str) (h : c ∉ b) : b.takeWhile (· != c) = b :=
  takeWhile_all _ _ fun _ ha => bne_iff_ne.2 fun e => h (e ▸ ha)

theorem takeWhile_ne_append (c : Char) (b t : Str) (h : c ∉ b) : (b ++ c :: t).takeWhile (· != c) = b := by
  rw [takeWhile_append_stop _ _ _ (by simp), takeWhile_ne_of_not_mem c b h]

theorem prefix_of_append_stop {α} (x : α) (B A s : List α) (hx : x ∉ s) (h : s <+: A ++ x :: B) : s <+: A :=
  -- a longer `s` would contain the `x` at offset `A.length`
  List.prefix_of_prefix_length_le h (List.prefix_append _ _) <| Nat.le_of_not_lt fun hlt => hx <| by
    have := h.getElem hlt
    rw [List.getElem_append_right (Nat.le_refl _)] at this
    simp only [Nat.sub_self, List.getElem_cons_zero] at this
    exact this ▸ List.getElem_mem _

theorem infix_iff_prefix_drop {α} (sub s : List α) : sub <:+: s ↔ ∃ q, q ≤ s.length ∧ sub <+: s.drop q := by
  rw [List.infix_iff_prefix_suffix]
  constructor
  · rintro ⟨t, hp, hs⟩
    exact ⟨s.length - t.length, Nat.sub_le _ _, List.suffix_iff_eq_drop.1 hs ▸ hp⟩
  · rintro ⟨q, _, hp⟩
    exact ⟨_, hp, List.drop_suffix q s⟩

theorem findAux_some (sub s : Str) (i p : Nat) : findAux sub s i = some p ↔
    ∃ k, p = i + k ∧ k ≤ s.length ∧ sub <+: s.drop k ∧ ∀ q, q < k → ¬ sub <+: s.drop q := by
  fun_induction findAux sub s i with simp only [List.isPrefixOf_iff_prefix] at *
  | case1 i hp | case3 _ _ i hp =>
    constructor
    · rintro ⟨⟩
      exact ⟨0, rfl, Nat.zero_le _, hp, nofun⟩
    · rintro ⟨_ | k, rfl, _, _, hq⟩
      · rfl
      · exact absurd hp (hq 0 (Nat.succ_pos _))
  | case2 i hp =>
    refine iff_of_false nofun fun ⟨k, _, hk, hpk, _⟩ => hp ?_
    rwa [Nat.le_zero.1 hk] at hpk
  | case4 c t i hp ih =>
    rw [ih]
    constructor
    · rintro ⟨k, rfl, hk, hpk, hq⟩
      exact ⟨k + 1, by omega, Nat.succ_le_succ hk, hpk, fun | 0, _ => hp | q + 1, h => hq q (Nat.lt_of_succ_lt_succ h)⟩
    · rintro ⟨_ | k, rfl, hk, hpk, hq⟩
      · exact absurd hpk hp
      · exact ⟨k, by omega, Nat.le_of_succ_le_succ hk, hpk, fun q h => hq (q + 1) (Nat.succ_lt_succ h)⟩

theorem findAux_none (sub s : Str) (i : Nat) : findAux sub s i = none ↔
    ∀ q, q ≤ s.length → ¬ sub <+: s.drop q := by
  fun_induction findAux sub s i with simp only [List.isPrefixOf_iff_prefix] at *
  | case1 i hp | case3 _ _ i hp => exact iff_of_false nofun fun h => h 0 (Nat.zero_le _) hp
  | case2 i hp => exact iff_of_true trivial fun q hq => by rwa [Nat.le_zero.1 hq]
  | case4 c t i hp ih =>
    rw [ih]
    constructor
    · exact fun h => fun | 0, _ => hp | q + 1, hq => h q (Nat.le_of_succ_le_succ hq)
    · exact fun h q hq => h (q + 1) (Nat.succ_le_succ hq)

theorem pyFind_some (s sub : Str) (st p : Nat) : pyFind s sub st = some p ↔
    st ≤ p ∧ p + sub.length ≤ s.length ∧ sub <+: s.drop p ∧
      ∀ q, st ≤ q → q < p → ¬ sub <+: s.drop q := by
  rw [pyFind]
  split
  · simp only [findAux_some, List.length_drop, List.drop_drop]
    constructor
    · rintro ⟨k, rfl, hk, hp, hq⟩
      have := hp.length_le
      rw [List.length_drop] at this
      refine ⟨Nat.le_add_right _ _, by omega, hp, fun q h1 h2 => ?_⟩
      obtain ⟨d, rfl⟩ := Nat.exists_eq_add_of_le h1
      exact hq d (by omega)
    · rintro ⟨h1, h2, hp, hq⟩
      obtain ⟨k, rfl⟩ := Nat.exists_eq_add_of_le h1
      exact ⟨k, rfl, by omega, hp, fun q hq' => hq (st + q) (Nat.le_add_right _ _) (by omega)⟩
  · exact iff_of_false nofun fun h => by omega

theorem pyFind_none (s sub : Str) (st : Nat) : pyFind s sub st = none ↔
    ∀ q, st ≤ q → q ≤ s.length → ¬ sub <+: s.drop q := by
  rw [pyFind]
  split
  · simp only [findAux_none, List.length_drop, List.drop_drop]
    constructor
    · intro h q h1 h2
      obtain ⟨d, rfl⟩ := Nat.exists_eq_add_of_le h1
      exact h d (by omega)
    · exact fun h q hq => h (st + q) (Nat.le_add_right _ _) (by omega)
  · exact iff_of_true rfl fun q h1 h2 => by omega

theorem contains_iff (s sub : Str) : contains s sub = true ↔ sub <:+: s := by
  rw [contains, Option.isSome_iff_ne_none, Ne, pyFind_none, infix_iff_prefix_drop]
  simp only [Nat.zero_le, true_imp_iff, Classical.not_forall, Classical.not_not, exists_prop]

theorem pyIdx_nat (len n : Nat) : pyIdx len (n : Int) = min n len := by
  rw [pyIdx, if_neg (by omega), Int.toNat_natCast]

theorem sliceTo_nat (s : Str) (n : Nat) : sliceTo s (n : Int) = s.take n := by
  rw [sliceTo, pyIdx_nat, List.take_eq_take_iff]; omega

theorem sliceFrom_nat (s : Str) (n : Nat) : sliceFrom s (n : Int) = s.drop n := by
  rw [sliceFrom, pyIdx_nat, List.drop_eq_drop_iff]; omega

theorem pyFindI_nat (s sub : Str) (n : Nat) :
    pyFindI s sub (n : Int) = match pyFind s sub n with | some p => (p : Int) | none => -1 := by
  rw [pyFindI, if_neg (by omega), Int.toNat_natCast]; rfl

/-- `rfind` counts from the left what the `takeWhile` of `lineCol` counts from the right -/
theorem rfindChar_takeWhile (c : Char) (t : Str) :
    -1 ≤ rfindChar c t ∧
      rfindChar c t + 1 + ((t.reverse.takeWhile (· != c)).length : Int) = (t.length : Int) := by
  fun_induction rfindChar c t with
    simp only [List.reverse_nil, List.reverse_cons, List.takeWhile_append, List.length_reverse, List.length_cons]
  | case1 => simp
  | case2 x t r h0 ih =>
    rw [if_neg (by omega)]
    omega
  | case3 t r h0 ih =>
    rw [if_pos (by omega)]
    simp
    omega
  | case4 x t r h0 hx ih =>
    rw [if_pos (by omega)]
    simp [hx]

theorem afterLast_of_not_mem (c : Char) (s : Str) (h : c ∉ s) : afterLast c s = s := by
  cases s with
  | nil => rfl
  | cons x t =>
    rw [List.mem_cons, not_or] at h
    simp only [afterLast, h.2, Ne.symm h.1, if_false]

theorem rpartition_tail (c : Char) (s : Str) : (rpartition c s).2.2 = afterLast c s := by
  simp only [rpartition]
  split
  · rfl
  · next h => exact (afterLast_of_not_mem c s h).symm

theorem splitNlAux_no_sep (sep : Char → Bool) (crlf cr : Bool) (s : Str) :
    ∀ l ∈ splitNlAux sep crlf cr s, ∀ x ∈ l, sep x = false := by
  fun_induction splitNlAux sep crlf cr s with
  | case1 => simp
  | case2 _ _ _ _ ih => exact ih
  | case3 _ _ _ _ _ ih => exact List.forall_mem_cons.2 ⟨nofun, ih⟩
  | case4 _ _ _ _ hc _ _ heq ih =>
    simp only [heq, List.forall_mem_cons] at ih ⊢
    exact ⟨⟨Bool.eq_false_iff.2 hc, ih.1⟩, ih.2⟩
  | case5 _ _ _ _ hc => simpa using hc

theorem splitlinesWith_no_sep (sep : Char → Bool) (crlf : Bool) (s : Str) :
    ∀ l ∈ splitlinesWith sep crlf s, ∀ x ∈ l, sep x = false := by
  intro l hl
  refine splitNlAux_no_sep sep crlf false s l ?_
  simp only [splitlinesWith] at hl
  split at hl
  · exact List.dropLast_subset _ hl
  · exact hl

theorem strLe_iff_le : ∀ a b : Str, strLe a b = true ↔ a ≤ b
  | [], b => by simp [strLe]
  | _ :: _, [] => by simp [strLe]
  | a :: s, b :: t => by
    simp only [strLe, Bool.or_eq_true, Bool.and_eq_true, decide_eq_true_eq, beq_iff_eq, strLe_iff_le s t,
      List.cons_le_cons_iff, Char.lt_def, UInt32.lt_iff_toNat_lt, Char.toNat]

end SuppModel.Text
